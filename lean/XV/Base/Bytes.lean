/-
Base layer: bytes as `List Nat` (each element < 256 by the `AllBytes` predicate
where it matters), little-endian integers, two's complement.
Mathlib-free so that the driver links as a `lean_exe`.
-/
namespace XV

abbrev Bytes := List Nat

def AllBytes (bs : Bytes) : Prop := ∀ b ∈ bs, b < 256

instance (bs : Bytes) : Decidable (AllBytes bs) := by unfold AllBytes; infer_instance

/-- little-endian unsigned value of a byte string -/
def leNat : Bytes → Nat
  | [] => 0
  | b :: bs => b + 256 * leNat bs

/-- `n` little-endian bytes of `v` (truncating) -/
def toLE : Nat → Nat → Bytes
  | 0, _ => []
  | n + 1, v => (v % 256) :: toLE n (v / 256)

theorem toLE_length (n v : Nat) : (toLE n v).length = n := by
  induction n generalizing v with
  | zero => rfl
  | succ n ih => simp [toLE, ih]

theorem toLE_allBytes (n v : Nat) : AllBytes (toLE n v) := by
  induction n generalizing v with
  | zero => exact fun _ h => nomatch h
  | succ n ih => exact List.forall_mem_cons.2 ⟨Nat.mod_lt _ (by decide), ih _⟩

theorem leNat_toLE (n v : Nat) (h : v < 256 ^ n) : leNat (toLE n v) = v := by
  induction n generalizing v with
  | zero => simp [toLE, leNat]; simp at h; omega
  | succ n ih =>
    simp only [toLE, leNat]
    have : v / 256 < 256 ^ n := by
      rw [Nat.div_lt_iff_lt_mul (by decide)]; rw [Nat.pow_succ] at h; omega
    rw [ih _ this]; omega

theorem leNat_lt (bs : Bytes) (h : AllBytes bs) : leNat bs < 256 ^ bs.length := by
  induction bs with
  | nil => simp [leNat]
  | cons b bs ih =>
    have hb : b < 256 := h b (by simp)
    have := ih (fun x hx => h x (by simp [hx]))
    simp only [leNat, List.length_cons, Nat.pow_succ]
    omega

theorem toLE_leNat (bs : Bytes) (h : AllBytes bs) : toLE bs.length (leNat bs) = bs := by
  induction bs with
  | nil => rfl
  | cons b bs ih =>
    have hb : b < 256 := h b (by simp)
    have h1 : (b + 256 * leNat bs) % 256 = b := by omega
    have h2 : (b + 256 * leNat bs) / 256 = leNat bs := by omega
    rw [List.length_cons, leNat, toLE, h1, h2, ih (fun x hx => h x (by simp [hx]))]

/-- signed interpretation of an `n`-byte little-endian value -/
def signedOf (nbytes : Nat) (v : Nat) : Int :=
  if v < 256 ^ nbytes / 2 then (v : Int) else (v : Int) - (256 ^ nbytes : Nat)

/-- Python's `bytes[i:j]`-like helpers -/
def takeN (n : Nat) (bs : Bytes) : Bytes := bs.take n
def dropN (n : Nat) (bs : Bytes) : Bytes := bs.drop n

end XV
