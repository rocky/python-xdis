/-
Text as a list of code points.  Lean's `String` is UTF-8 backed and very slow to
reduce in the kernel, so every table that a `decide +kernel` theorem ranges over
carries its strings as `Str`; `String` appears only in the driver's I/O.
-/
namespace XV

abbrev Str := List Nat

/-- equality of two texts as a structurally recursive Bool function on `Nat.beq`: the derived
    `==` on `List Nat` goes through `DecidableEq` and is two orders of magnitude slower in the kernel -/
def Str.eqb : List Nat → List Nat → Bool
  | [], [] => true
  | a :: as, b :: bs => Nat.beq a b && Str.eqb as bs
  | _, _ => false

theorem Str.eqb_iff (a b : List Nat) : Str.eqb a b = true ↔ a = b := by
  induction a generalizing b with
  | nil => cases b <;> simp [Str.eqb]
  | cons x xs ih => cases b <;> simp [Str.eqb, ih]

/-- conversion used by the driver and by `example`s that pin the literal constants below -/
def str (x : String) : Str := x.toList.map Char.toNat
def Str.toString (s : Str) : String := String.ofList (s.map Char.ofNat)

namespace S
def pypy : Str := [112, 121, 112, 121]
def dropbox : Str := [100, 114, 111, 112, 98, 111, 120]
def dot : Nat := 46
example : pypy = str "pypy" ∧ dropbox = str "dropbox" ∧ [dot] = str "." := by decide
end S

def isDigit (c : Nat) : Bool := c ≥ 48 && c ≤ 57

def takeDigits : Str → Str × Str
  | [] => ([], [])
  | c :: cs => if isDigit c then let (d, r) := takeDigits cs; (c :: d, r) else ([], c :: cs)

def decVal (ds : Str) : Nat := ds.foldl (fun a c => a * 10 + (c - 48)) 0

def natToDecAux : Nat → Nat → Str → Str
  | 0, _, acc => acc
  | fuel + 1, n, acc =>
    if n < 10 then (48 + n) :: acc else natToDecAux fuel (n / 10) ((48 + n % 10) :: acc)

/-- Python's `str(n)` for a natural number -/
def natToDec (n : Nat) : Str := natToDecAux (n + 1) n []

example : natToDec 3495 = str "3495" ∧ natToDec 0 = str "0" := by decide

/-- `".".join(str(i) for i in t)` -/
def joinDots : List Nat → Str
  | [] => []
  | [a] => natToDec a
  | a :: rest => natToDec a ++ S.dot :: joinDots rest

end XV
