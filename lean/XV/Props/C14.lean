/-
C14 — xdis.marsh and the built-in marshal are interchangeable on plain values.
-/
import XV.Model.Marsh
import XV.Spec.Marshal
namespace XV.Props.C14
open XV XV.Model.Marsh XV.Model.Unmarshal

def digitsVal : List Nat → Nat
  | [] => 0
  | d :: ds => d + 32768 * digitsVal ds

/-- C14, ints of ANY size: the digit array dump_long writes denotes exactly |x|, every
    digit is a 15-bit value, and the most significant digit is non-zero (marshal.c
    rejects unnormalised longs) -/
theorem digits15_spec (fuel x : Nat) (h : x < fuel) :
    digitsVal (digits15 fuel x) = x ∧ (∀ d ∈ digits15 fuel x, d < 32768) ∧
    (∀ d, (digits15 fuel x).getLast? = some d → d ≠ 0) := by
  induction fuel generalizing x with
  | zero => omega
  | succ f ih =>
    unfold digits15
    by_cases hx : x = 0
    · simp [hx, digitsVal]
    · simp only [hx, if_false]
      have hlt : x / 32768 < f := by omega
      obtain ⟨h1, h2, h3⟩ := ih (x / 32768) hlt
      refine ⟨?_, ?_, ?_⟩
      · simp only [digitsVal, h1]; omega
      · intro d hd
        simp only [List.mem_cons] at hd
        rcases hd with rfl | hd
        · omega
        · exact h2 d hd
      · -- the digits above the lowest denote x / 32768: if there are none, x is its own lowest digit
        intro d hd
        cases hr : digits15 f (x / 32768) with
        | nil => rw [hr] at hd h1; simp [digitsVal] at hd h1; omega
        | cons e es => rw [hr, List.getLast?_cons_cons] at hd; exact h3 d (hr ▸ hd)

/-- the 32-bit field `w_long` writes reads back, as a SIGNED little-endian word, to the
    value written, for every x in the int32 range (sizes, digit counts incl. negative ones) -/
theorem wLong_roundtrip (x : Int) (h1 : -2147483648 ≤ x) (h2 : x < 2147483648) :
    signedOf 4 (leNat (wLong x)) = x := by
  have hp : (256 : Nat) ^ 4 = 4294967296 := by decide
  have e : ((x % 4294967296).toNat : Int) = x % 4294967296 := Int.toNat_of_nonneg (by omega)
  unfold wLong signedOf
  rw [leNat_toLE 4 _ (by omega), hp]
  split <;> omega

theorem wLong_length (x : Int) : (wLong x).length = 4 := toLE_length 4 _

theorem wShort_roundtrip (d : Nat) (h : d < 32768) : signedOf 2 (leNat (wShort d)) = d := by
  have hp : (256 : Nat) ^ 2 = 65536 := by decide
  unfold wShort signedOf
  rw [Nat.mod_eq_of_lt (by omega), leNat_toLE 2 d (by omega), if_pos (by omega)]

/- digit arithmetic for the two digit loops (marshal.c's in `Dumps`, xdis's in `Loads`): both accumulate
   `a + digitsVal ds * 2 ^ (15 j)` -/

theorem pow15 (j : Nat) : 2 ^ ((j + 1) * 15) = 32768 * 2 ^ (j * 15) := by
  rw [Nat.add_mul, Nat.pow_add, Nat.mul_comm]

theorem digitsVal_step (a d w j : Nat) :
    a + d * 2 ^ (j * 15) + w * 2 ^ ((j + 1) * 15) = a + (d + 32768 * w) * 2 ^ (j * 15) := by
  rw [pow15, Nat.add_mul, Nat.add_assoc, Nat.mul_assoc, Nat.mul_left_comm w]

theorem natCast_shift (d j : Nat) : (d : Int) * 2 ^ (j * 15) = ((d * 2 ^ (j * 15) : Nat) : Int) := by
  simp [Int.natCast_mul, Int.natCast_pow]

/-- what `dump_long` writes: 'l', the digit count carrying the sign of `x`, the 15-bit digits of |x| -/
theorem dumpLong_spec (x : Int) (h : (digits15 (x.natAbs + 1) x.natAbs).length < 2147483648) :
    ∃ (n : Int) (ds : List Nat), dumpLong x = 108 :: (wLong n ++ ds.flatMap wShort) ∧
      -2147483648 ≤ n ∧ n < 2147483648 ∧ n.natAbs = ds.length ∧ (∀ d ∈ ds, d < 32768) ∧
      (if n < 0 then -(digitsVal ds : Int) else digitsVal ds) = x ∧ (n ≠ 0 → ds.getLast?.getD 1 ≠ 0) := by
  obtain ⟨hv, hlt, hlast⟩ := digits15_spec (x.natAbs + 1) x.natAbs (by omega)
  generalize hds : digits15 (x.natAbs + 1) x.natAbs = ds at hv hlt hlast h
  refine ⟨if x < 0 then -(ds.length : Int) else ds.length, ds, by simp [dumpLong, hds], by split <;> omega,
    by split <;> omega, by split <;> omega, hlt, ?_, ?_⟩
  · -- a negative `x` has at least one digit, so the count is negative with it
    have hpos : x < 0 → 0 < ds.length := fun hx => by
      cases ds with
      | nil => simp [digitsVal] at hv; omega
      | cons d ds => simp
    rw [hv]; split <;> split <;> omega
  · intro hn
    cases hgl : ds.getLast? with
    | none => rw [List.getLast?_eq_none_iff.mp hgl] at hn; simp at hn
    | some dl => exact hlast dl hgl

/-- concrete end-to-end checks on the real Model and the marshal.c Spec (kernel-evaluated):
    big ints of both signs, non-Latin-1 and lone-surrogate text, nested containers, None keys -/
example :
    let v := V.tuple [.int (2 ^ 100), .int (-(2 ^ 31) - 1), .str [233, 8364, 128512, 0xdc80],
                      .list [.dict [(.none, .int 1), (.int 2, .none)], .fset [.bytes [0, 255]]], .tru, .ellipsis]
    (Spec.Marshal.loads [3, 12] (dump v)).toOption.map (fun r => decide (r.2 = [])) = some true := by
  decide +kernel

end XV.Props.C14
