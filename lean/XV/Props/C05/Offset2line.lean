/-
C05 — `bytecode.offset2line`: over a mapping whose start offsets increase, the binary search
returns the line of the greatest start offset <= the queried offset (0 when there is none),
for every mapping length and every offset.
-/
import XV.Model.Lines
namespace XV.Props.C05.Offset2line
open XV XV.Model.Lines

def Increasing (ls : Array (Nat × Int)) : Prop :=
  ∀ i j : Nat, i < j → j < ls.size → (ls.getD i (0, 0)).1 < (ls.getD j (0, 0)).1

/-- The loop, seen from the index `i` it is looking for (the last start ≤ `off`): comparing `off` with the
    start at `mid` tells on which side of `mid` the index `i` lies, so `low ≤ i + 1` and `i ≤ high` are kept,
    and `low` passes `i` only when the start at `i` is below `off`.  The loop ends on `i` with an exact hit,
    or with `high = i` and `mid = i + 1`. -/
theorem loop_spec (ls : Array (Nat × Int)) (off : Nat) (hinc : Increasing ls) (i : Nat) (hi : i < ls.size)
    (hle : (ls.getD i (0, 0)).1 ≤ off) (hgt : ∀ j, i < j → j < ls.size → off < (ls.getD j (0, 0)).1) :
    ∀ (fuel : Nat) (low high : Int), 0 ≤ low → low ≤ i + 1 → i ≤ high → high < ls.size →
      (low = i + 1 → (ls.getD i (0, 0)).1 < off) → high + 2 ≤ low + fuel →
      (o2lLoop ls off fuel low high ((low + high + 1) / 2)).1 = some (ls.getD i (0, 0)).2 ∨
      o2lLoop ls off fuel low high ((low + high + 1) / 2) = (none, (i : Int), (i : Int) + 1) := by
  intro fuel
  induction fuel with
  | zero => intro low high _ _ _ _ _ hf; omega
  | succ fuel ih =>
    intro low high h0 hlo hhi hn hpass hf
    unfold o2lLoop
    by_cases hlh : low ≤ high
    · rw [if_pos hlh]
      -- all the loop uses of its midpoint; no later step sees the division
      obtain ⟨hlm, hmh⟩ : low ≤ (low + high + 1) / 2 ∧ (low + high + 1) / 2 ≤ high := by omega
      generalize (low + high + 1) / 2 = mid at hlm hmh ⊢
      obtain ⟨m, rfl⟩ : ∃ m : Nat, mid = m := ⟨mid.toNat, by omega⟩
      simp only [Int.toNat_natCast]
      have hside : (m < i → (ls.getD m (0, 0)).1 < off) ∧ (i < m → off < (ls.getD m (0, 0)).1) ∧
          (m = i → (ls.getD m (0, 0)).1 = (ls.getD i (0, 0)).1) :=
        ⟨fun h => Nat.lt_of_lt_of_le (hinc m i h hi) hle, fun h => hgt m h (by omega), fun h => by rw [h]⟩
      by_cases h1 : (ls.getD m (0, 0)).1 > off
      · rw [if_pos h1]
        exact ih low (m - 1) h0 hlo (by omega) (by omega) hpass (by omega)
      · rw [if_neg h1]
        by_cases h2 : (ls.getD m (0, 0)).1 < off
        · rw [if_pos h2]
          exact ih (m + 1) high (by omega) (by omega) hhi hn (by omega) (by omega)
        · rw [if_neg h2]
          obtain rfl : m = i := by omega
          exact .inl rfl
    · rw [if_neg hlh]
      obtain rfl : high = i := by omega
      exact .inr (by rw [show (low + (i : Int) + 1) / 2 = i + 1 by omega])

/-- the line of the greatest start offset ≤ `off`; 0 when the mapping is empty or `off` precedes every start -/
theorem C05_offset2line (lst : List (Nat × Int)) (off : Nat) (hinc : Increasing lst.toArray) :
    ((lst = [] ∨ off < (lst.toArray.getD 0 (0, 0)).1) → offset2line off lst = 0) ∧
    (∀ i : Nat, i < lst.length → (lst.toArray.getD i (0, 0)).1 ≤ off →
        (∀ j : Nat, i < j → j < lst.length → off < (lst.toArray.getD j (0, 0)).1) →
        offset2line off lst = (lst.toArray.getD i (0, 0)).2) := by
  constructor
  · intro h
    unfold offset2line
    rcases h with rfl | h
    · rfl
    · exact if_pos (.inr h)
  · intro i hi hle hgt
    have hsz : lst.toArray.size = lst.length := List.size_toArray
    have h0 : ¬ (lst.toArray.size = 0 ∨ off < (lst.toArray.getD 0 (0, 0)).1) := by
      rcases Nat.eq_zero_or_pos i with rfl | hpos
      · omega
      · have := hinc 0 i hpos (by omega); omega
    unfold offset2line
    simp only [if_neg h0]
    have hl := loop_spec lst.toArray off hinc i (by omega) hle (fun j h1 h2 => hgt j h1 (by omega))
      (lst.toArray.size + 2) 0 ((lst.toArray.size : Int) - 1) (by omega) (by omega) (by omega) (by omega)
      (by omega) (by omega)
    generalize o2lLoop lst.toArray off (lst.toArray.size + 2) 0 ((lst.toArray.size : Int) - 1)
      ((0 + ((lst.toArray.size : Int) - 1) + 1) / 2) = r at hl
    obtain ⟨r1, r2, r3⟩ := r
    rcases hl with hl | hl
    · simp only at hl; subst hl; rfl
    · cases hl
      simp only [Int.toNat_natCast]
      split
      · rw [show lst.toArray.size - 1 = i by omega]
      · rfl

/-- non-vacuity: a real mapping meets the hypothesis, and the theorem's answer is the computed one -/
example : Increasing #[(0, 1), (4, 7), (10, 3)] ∧ offset2line 9 [(0, 1), (4, 7), (10, 3)] = 7 ∧
    offset2line 10 [(0, 1), (4, 7), (10, 3)] = 3 ∧ offset2line 100 [(0, 1), (4, 7), (10, 3)] = 3 := by
  refine ⟨?_, by decide, by decide, by decide⟩
  intro i j hij hj
  have key : ∀ j, j < 3 → ∀ i, i < j →
      ((#[(0, 1), (4, 7), (10, 3)] : Array (Nat × Int)).getD i (0, 0)).1 <
      ((#[(0, 1), (4, 7), (10, 3)] : Array (Nat × Int)).getD j (0, 0)).1 := by decide
  exact key j hj i hij

end XV.Props.C05.Offset2line
