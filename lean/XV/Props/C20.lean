/-
C20 — xdis.std is a faithful drop-in for the host's dis module.
The instruction fields are the ones C02–C05 decide (same decoder, same finders); this file
adds what is specific to the std layer: the first_line shift, the module-level tables, and
the choice of table by make_std_api.
-/
import XV.Props.C09
import XV.Gen.Magics
namespace XV.Props.C20
open XV XV.Model XV.Spec.OpTables

/-- Model of the line shift of Bytecode.get_instructions / get_instructions_bytes:
    `line_offset = first_line - co_firstlineno`, `starts_line = linestarts[offset] + line_offset` -/
def shifted (firstLine : Option Int) (coFirst line : Int) : Int :=
  match firstLine with
  | some f => line + (f - coFirst)
  | none => line

/-- with first_line given, the first source line is reported as first_line
    and every other line keeps its distance to it — dis's contract — for all values -/
theorem C20_first_line (f coFirst line : Int) :
    shifted (some f) coFirst coFirst = f ∧ shifted (some f) coFirst line - shifted (some f) coFirst coFirst = line - coFirst ∧
    shifted none coFirst line = line := by
  simp [shifted]; omega

/-- C20_make: for every (major, minor) with an installed interpreter, the table
    make_std_api / the default API selects (probed on the implementation) is a table of
    allTables for exactly that version, not a PyPy variant, and equals that interpreter's
    opcode module (opmap, HAVE_ARGUMENT, EXTENDED_ARG, the category lists) -/
def stdApiOk (r : RefTable) : Bool :=
  match Gen.stdApiTables.lookup r.version with
  | none => false
  | some n =>
    match Gen.allTables.find? (·.name == n) with
    | none => false
    | some t => t.version == r.version && !t.isPypy && refOk t && (refFor t).isSome

theorem C20_make : ∀ r ∈ Gen.allRefs, stdApiOk r = true := by decide +kernel

end XV.Props.C20
