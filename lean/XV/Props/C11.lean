/-
C11 — Corrupt or hostile bytecode files fail cleanly.
-/
import XV.Props.C11.Fuel
import XV.Gen.Effects
namespace XV.Props.C11
open XV XV.Model XV.Model.LoadOutcome

/-- C11_class: whatever the bytes of the file, whatever the recursion limit and whatever
    the tables hold, the portable path of load_module either returns, raises ImportError, or the Model
    itself ran out of fuel (the escape hatch `C11_clean` closes; the native fast path is a parameter: it is
    clean exactly when the host's marshal is) -/
theorem C11_class (tb : Header.Tables) (graal : List Nat) (limit hostMagic : Nat)
    (native : Bytes → Outcome) (data : Bytes) :
    clean (loadModule tb graal limit hostMagic native data) = true ∨
    loadModule tb graal limit hostMagic native data = .escaped "MODEL-OUT-OF-FUEL" ∨
    (∃ b, loadModule tb graal limit hostMagic native data = native b) :=
  (Fuel.C11_clean tb graal limit hostMagic native data).imp_right Or.inr

/-- non-vacuity: a 60-byte file of zeros is an unknown magic: ImportError -/
example : loadModule { tuples := [], versions := [], pypy3 := [] } [] 400 3531 (fun _ => .returned)
    (List.replicate 60 0) = .importError := by decide

/-- C11_effects: no exec / eval / compile / __import__ / open-for-write / os.* / subprocess /
    tempfile call site is reachable from load_module in the call graph extracted from
    /repo/xdis on this run (over-approximated: calls resolved by name across all modules,
    getattr(self, "t_" + …) resolved to every t_* method); `> 20` guards against an empty scan -/
theorem C11_effects : Gen.loadModuleDanger = [] ∧ Gen.loadModuleReachable > 20 := by decide

end XV.Props.C11
