/-
C03 — Operands resolve to the same constant, name or variable CPython resolves.
-/
import XV.Model.Operand
import XV.Spec.Dis
import XV.Spec.OpTables
namespace XV.Props.C03
open XV XV.Model XV.Model.Operand

/-! 3.11+, the merged locals+cells+frees table.  CPython orders co_localsplusnames as: locals (some of which are also cells), then the
cells that are not locals, then the free variables; names are pairwise distinct.
xdis splits that table by kind when it unmarshals the code object and later rebuilds it as
`varnames + [c for c in cellvars + freevars if c not in varnames]`.  `C03_split_join`: the
rebuilt table is the original one — so index i resolves to the name CPython's
`_varname_from_oparg(i)` gives, including a parameter that is also a cell. -/

/-- a table in CPython's order; kind bits as CPython writes them:
    0x20 local, 0x60 local that is also a cell, 0x40 cell, 0x80 free -/
def table (L : List (Nat × Bool)) (C F : List Nat) : List (Nat × Nat) :=
  L.map (fun p => (p.1, if p.2 then 0x60 else 0x20)) ++ C.map (fun n => (n, 0x40)) ++ F.map (fun n => (n, 0x80))

/-- one turn of the loop; on an entry of known kind `simp` decides the bit tests -/
theorem split_cons (n k : Nat) (rest : List (Nat × Nat)) :
    splitLocalsplus ((n, k) :: rest) =
      if k &&& 0x20 ≠ 0 then
        if k &&& 0x40 ≠ 0 then (n :: (splitLocalsplus rest).1, n :: (splitLocalsplus rest).2.1, (splitLocalsplus rest).2.2)
        else (n :: (splitLocalsplus rest).1, (splitLocalsplus rest).2.1, (splitLocalsplus rest).2.2)
      else if k &&& 0x40 ≠ 0 then ((splitLocalsplus rest).1, n :: (splitLocalsplus rest).2.1, (splitLocalsplus rest).2.2)
      else if k &&& 0x80 ≠ 0 then ((splitLocalsplus rest).1, (splitLocalsplus rest).2.1, n :: (splitLocalsplus rest).2.2)
      else splitLocalsplus rest := rfl

theorem split_frees (F : List Nat) : splitLocalsplus (F.map fun n => (n, 0x80)) = ([], [], F) := by
  induction F with
  | nil => rfl
  | cons n F ih => simp [split_cons, ih]

theorem split_cells (C F : List Nat) :
    splitLocalsplus (C.map (fun n => (n, 0x40)) ++ F.map fun n => (n, 0x80)) = ([], C, F) := by
  induction C with
  | nil => exact split_frees F
  | cons n C ih => simp [split_cons, ih]

theorem split_table (L : List (Nat × Bool)) (C F : List Nat) :
    splitLocalsplus (table L C F) =
      (L.map (·.1), (L.filter (·.2)).map (·.1) ++ C, F) := by
  unfold table
  induction L with
  | nil => exact split_cells C F
  | cons p L ih =>
    rw [List.append_assoc] at ih
    obtain ⟨n, b⟩ := p
    cases b <;> simp [split_cons, ih]

theorem localsplus_append (V A B : List Nat) (hA : ∀ x ∈ A, x ∈ V) (hB : ∀ x ∈ B, x ∉ V) :
    localsplus V (A ++ B) = V ++ B := by
  rw [localsplus, List.filter_append, List.filter_eq_nil_iff.2, List.filter_eq_self.2, List.nil_append]
  · simpa using hB
  · simpa using hA

/-- for every table in CPython's order with cells and frees distinct from
    the locals, unmarshalling then rebuilding gives back the original name list -/
theorem C03_split_join (L : List (Nat × Bool)) (C F : List Nat)
    (hC : ∀ c ∈ C, c ∉ L.map (·.1)) (hF : ∀ f ∈ F, f ∉ L.map (·.1)) :
    let s := splitLocalsplus (table L C F)
    localsplus s.1 (s.2.1 ++ s.2.2) = (table L C F).map (·.1) := by
  simp only [split_table, List.append_assoc]
  rw [localsplus_append]
  · simp [table, Function.comp_def]
  · intro x hx
    obtain ⟨p, hp, rfl⟩ := List.mem_map.1 hx
    exact List.mem_map_of_mem (List.mem_filter.1 hp).1
  · intro x hx
    exact (List.mem_append.1 hx).elim (hC x) (hF x)

/-- non-vacuity: `def f(a, b): c = 1; (lambda: a + c + g)`: a is a parameter and a cell -/
example : (let s := splitLocalsplus (table [(1, true), (2, false)] [3] [4]);
           (s, localsplus s.1 (s.2.1 ++ s.2.2))) = (([1, 2], [1, 3], [4]), [1, 2, 3, 4]) := by decide

/-- COMPARE_OP: 3.12 keeps the operator in bits 4.., 3.13 in bits 5.. -/
theorem C03_cmp_shift (k low : Nat) (n : Nat) (h : low < 2 ^ n) : (k * 2 ^ n + low) >>> n = k := by
  rw [Nat.shiftRight_eq_div_pow]
  have hp : 0 < 2 ^ n := Nat.pow_pos (by decide)
  rw [Nat.mul_comm, Nat.mul_add_div hp, Nat.div_eq_of_lt h]; rfl
/-- LOAD_GLOBAL (3.11+) and LOAD_ATTR (3.12+): the name index is operand >> 1 whatever the flag bit -/
theorem C03_name_shift1 (idx : Nat) (flag : Nat) (h : flag < 2) : (idx * 2 + flag) >>> 1 = idx :=
  C03_cmp_shift idx flag 1 h
/-- LOAD_SUPER_ATTR (3.12+): two flag bits -/
theorem C03_name_shift2 (idx : Nat) (flags : Nat) (h : flags < 4) : (idx * 4 + flags) >>> 2 = idx :=
  C03_cmp_shift idx flags 2 h
/-- 3.13 paired LOAD_FAST/STORE_FAST operands: two nibbles -/
theorem C03_pair (a b : Nat) (hb : b < 16) : (a * 16 + b) >>> 4 = a ∧ (a * 16 + b) &&& 15 = b := by
  refine ⟨C03_cmp_shift a b 4 hb, ?_⟩
  rw [Nat.and_two_pow_sub_one_eq_mod _ 4]; omega

def dashToSpace (s : Str) : Str := s.map fun c => if c == 45 then 32 else c

def cmpOk (t : OpTable) : Bool :=
  match Spec.OpTables.refFor t with
  | none => true
  | some r =>
    -- every CPython operator appears at the same index in xdis's tuple (which has a trailing "BAD")
    (r.cmpOp.zip t.cmpOp).all (fun p => Spec.OpTables.natsEq p.1 (dashToSpace p.2)) && r.cmpOp.length ≤ t.cmpOp.length

theorem C03_cmp : ∀ t ∈ Gen.allTables, cmpOk t = true := by decide +kernel

def distinctStrs : List Str → Bool
  | [] => true
  | x :: xs => !(xs.any (Spec.OpTables.natsEq x)) && distinctStrs xs

/-- `dashToSpace` conflates no two of xdis's operators: the normalisation is a bijection -/
theorem C03_cmp_injective : ∀ t ∈ Gen.allTables, distinctStrs (t.cmpOp.map dashToSpace) = true := by
  decide +kernel

end XV.Props.C03
