/-
C02, unbounded part, eras with inline caches (3.11, 3.12, 3.13).

CPython's `_unpack_opargs` skips the `_inline_cache_entries[deop]` code units after an instruction;
xdis decodes those code units as `CACHE` instructions (opcode 0), which the property sets aside.
Theorem: for every byte string, the non-CACHE part of xdis's stream is CPython's stream, provided
the code is laid out as every 3.11+ compiler lays it out (`CacheOk`): the cache slots — found by
walking as CPython walks — hold the CACHE opcode, no other code unit does, every other code unit
holds an opcode the version defines, no EXTENDED_ARG prefix is
pending at a cache slot, and a folded operand prefix stays below 2^31 (beyond that CPython's `dis`
wraps to a negative number).
-/
import XV.Props.C02.Stream
namespace XV.Props.C02
open XV XV.Model XV.Model.Decode

/-- an opcode number CPython's `opcode` module defines for the version -/
def isDefined (d : Spec.Dis.DisTbl) (op : Nat) : Bool := d.names.any (·.2 == op)

structure DisOk311 (t : OpTable) (d : Spec.Dis.DisTbl) : Prop where
  takes : ∀ op, op < 256 → isDefined d op = true → t.hasArg op =
    (if verGe d.version 3 12 then (d.hasarg.getD []).contains op else decide (op ≥ d.haveArgument))
  ext : ∀ op, op < 256 → isExtName t op = (d.extendedArg == some op)
  era : py36 t = true
  ge311 : verGe d.version 3 11 = true
  cacheNoArg : t.hasArg 0 = false

/-- the layout every 3.11+ compiler produces (see the header) -/
def cacheOk (t : OpTable) (d : Spec.Dis.DisTbl) (code : Bytes) : Nat → Nat → Nat → Nat → Bool
  | 0, _, _, _ => true
  | fuel + 1, i, ext, caches =>
    if i < code.length then
      match code[i]? with
      | none => true
      | some op =>
        if caches > 0 then op == 0 && ext == 0 && cacheOk t d code fuel (i + 2) 0 (caches - 1)
        else
          op != 0 && isDefined d op &&
          (if t.hasArg op then
            match code[i + 1]? with
            | none => true
            | some b =>
              let ext' := if isExtName t op then (b ||| ext) <<< 8 else 0
              decide (ext' < 2 ^ 31) && cacheOk t d code fuel (i + 2) ext' (Spec.Dis.cachesOf d op)
           else cacheOk t d code fuel (i + 2) 0 (Spec.Dis.cachesOf d op))
    else true

def CacheOk (t : OpTable) (d : Spec.Dis.DisTbl) (code : Bytes) : Prop :=
  cacheOk t d code (code.length + 1) 0 0 0 = true

/-- not a CACHE code unit -/
def nc (x : Triple) : Bool := x.2.1 != 0

theorem filter_cons_bind (p : Triple → Bool) (a : Triple) (x : Option (List Triple)) :
    (x.bind fun rest => pure (a :: rest)).map (List.filter p) =
      if p a then (x.map (List.filter p)).bind fun rest => pure (a :: rest) else x.map (List.filter p) := by
  cases x with
  | none => simp
  | some l => cases h : p a <;> simp [h]

theorem flat_spec_311 (t : OpTable) (d : Spec.Dis.DisTbl) (code : Bytes) (dk : DisOk311 t d)
    (hbytes : IsBytes code) :
    ∀ f i, Enough code f i → ∀ ext caches, cacheOk t d code f i ext caches = true →
      Spec.Dis.unpackWordGo d code f i ext caches = (flat t false code i ext).map (List.filter nc) := by
  refine fuel_induction code (fun f i hi ext caches _ => ?_) (fun f i hi ih ext caches hc => ?_)
  · rw [flat_end hi]; cases f <;> simp [Spec.Dis.unpackWordGo, hi]
  · have ih := ih (i + 2) (by omega)
    have hop := hbytes _ (List.getElem_mem hi)
    rw [Spec.Dis.unpackWordGo, flat_step t false code ext hi]
    rw [cacheOk] at hc
    simp only [operand, size_eq, hi, ↓reduceIte, List.getElem?_eq_getElem hi, Option.bind_eq_bind, Option.bind_some,
      dk.era, dk.ge311, verGe_mono (a' := 3) (b' := 10) (by omega) dk.ge311, Bool.true_and] at hc ⊢
    by_cases hca : caches > 0
    · -- a cache slot: CPython skips it, xdis lists it as the operand-less CACHE
      simp only [hca, ↓reduceIte, Bool.and_eq_true, beq_iff_eq] at hc ⊢
      obtain ⟨⟨h0, he⟩, hc⟩ := hc
      rw [h0, he, dk.cacheNoArg, ih _ _ hc, if_neg Bool.false_ne_true]
      simp only [Option.bind_some, filter_cons_bind]
      rfl
    · simp only [hca, ↓reduceIte, Bool.and_eq_true, bne_iff_ne, ne_eq] at hc ⊢
      obtain ⟨⟨hne, hdef⟩, hc⟩ := hc
      have hnc : ∀ a, nc (i, code[i], a) = true := fun a => by simpa [nc] using hne
      rw [← dk.takes _ hop hdef, ← dk.ext _ hop]
      by_cases ha : t.hasArg code[i] = true
      · simp only [ha, ↓reduceIte] at hc ⊢
        cases hb : code[i + 1]? with
        | none => rfl
        | some b =>
          -- the folded prefix stays below 2^31: no wrap
          simp only [hb, Bool.and_eq_true, decide_eq_true_eq] at hc
          simp only [Option.bind_some, pending, dk.era, decide_eq_false (Nat.not_le.mpr hc.1),
            Bool.false_eq_true, ↓reduceIte, ih _ _ hc.2, filter_cons_bind, hnc]
      · simp only [ha, Bool.false_eq_true, ↓reduceIte] at hc ⊢
        simp only [Option.bind_some, pending, Bool.false_eq_true, ↓reduceIte, ih _ _ hc,
          filter_cons_bind, hnc]

theorem unpack_311 (t : OpTable) (d : Spec.Dis.DisTbl) (code : Bytes) (dk : DisOk311 t d)
    (hbytes : IsBytes code) (hc : CacheOk t d code) :
    Spec.Dis.unpack d code = (flat t false code 0 0).map (List.filter nc) := by
  rw [Spec.Dis.unpack, if_pos (verGe_mono (by omega) dk.ge311)]
  exact flat_spec_311 t d code dk hbytes _ 0 (Nat.le_refl _) 0 0 hc

/-- for a 3.11+ table whose per-opcode facts hold, for EVERY byte string laid
    out as `CacheOk` says, the non-CACHE part of xdis's stream is CPython's `_unpack_opargs` stream
    (offset, opcode, operand with EXTENDED_ARG prefixes folded in), or both stop on a truncated operand -/
theorem C02_stream_311 (t : OpTable) (d : Spec.Dis.DisTbl) (code : Bytes) (ok : TableOk t) (dk : DisOk311 t d)
    (hbytes : IsBytes code) (hc : CacheOk t d code) :
    ((instrs t code).toOption.map (List.map tri)).map (List.filter nc) = Spec.Dis.unpack d code := by
  rw [instrs, stream_flat t code ok hbytes _ 0 (Nat.le_refl _), unpack_311 t d code dk hbytes hc]

end XV.Props.C02
