/-
C02, unbounded part — the instruction stream of a code string of ANY length, up to 3.10 (no inline caches).

`Model.Decode.instrs` is xdis's nested loop (get_instructions_bytes calling
get_logical_instruction_at_offset, which folds EXTENDED_ARG prefixes into a group);
`Spec.Dis.unpack` is CPython's flat `_unpack_opargs` loop.  They are related through a
flat, fuel-free view `flat` of the Model's reads (`operand`: what is read at an offset; `pending`:
the prefix left for the next), with a switch `keep` for the one thing the decoders of this family
differ in, the fate of a pending EXTENDED_ARG prefix at an operand-less opcode:

  stream_flat   Model.instrs (as triples) = flat false      (nested loop = flat loop)
  unpack_27, unpack_word   Spec.Dis.unpack = flat keep      (table facts; keep as CPython does)
  flat_keep     flat true = flat false                      (carry condition)
  C02_stream    Model.instrs (as triples) = Spec.Dis.unpack

for every table whose per-opcode facts hold for all 256 opcode numbers (discharged for the
regenerated tables in C02.lean).  The one hypothesis on the code, `CarryOk`, excludes exactly the byte
sequences where CPython ≤ 3.9 carries a pending EXTENDED_ARG across an operand-less opcode
and xdis drops it (no compiler emits EXTENDED_ARG before an operand-less opcode); from 3.10
CPython drops it too and the hypothesis is not needed.
-/
import XV.Model.Decode
import XV.Spec.Dis
import XV.Lemmas.ToOption
import XV.Lemmas.OpTable
namespace XV.Props.C02
open XV XV.Model XV.Model.Decode

abbrev Triple := Spec.Dis.Triple

def tri (i : Instr) : Triple := (i.offset, i.opcode, i.arg)

theorem size_eq (t : OpTable) (op : Nat) :
    t.instrSizeOf op = if py36 t then 2 else if t.hasArg op then 3 else 1 := t.instrSizeOf_eq op

theorem size_pos (t : OpTable) (op : Nat) : 1 ≤ t.instrSizeOf op := by
  rw [size_eq]; repeat' split
  all_goals omega

/-- `some none` at an operand-less opcode, `none` when the code string ends inside the operand -/
def operand (t : OpTable) (code : Bytes) (i ext op : Nat) : Option (Option Nat) :=
  if t.hasArg op then
    if py36 t then do
      let b ← code[i + 1]?
      some (some (b ||| ext))
    else do
      let b1 ← code[i + 1]?
      let b2 ← code[i + 2]?
      some (some (b1 + b2 * 0x100 + ext))
  else some none

def pending (t : OpTable) (keep : Bool) (op ext : Nat) : Option Nat → Nat
  | some arg => if isExtName t op then (if py36 t then arg <<< 8 else arg * 0x10000) else 0
  | none => if keep then ext else 0

def flat (t : OpTable) (keep : Bool) (code : Bytes) (i ext : Nat) : Option (List Triple) :=
  if h : i < code.length then do
    let arg ← operand t code i ext code[i]
    let rest ← flat t keep code (i + t.instrSizeOf code[i]) (pending t keep code[i] ext arg)
    pure ((i, code[i], arg) :: rest)
  else some []
termination_by code.length - i
decreasing_by have := size_pos t code[i]; omega

theorem flat_step (t : OpTable) (keep : Bool) (code : Bytes) (ext : Nat) {i : Nat} (h : i < code.length) :
    flat t keep code i ext = (do
      let arg ← operand t code i ext code[i]
      let rest ← flat t keep code (i + t.instrSizeOf code[i]) (pending t keep code[i] ext arg)
      pure ((i, code[i], arg) :: rest)) := by
  rw [flat, dif_pos h]

/-- with it `simp` unfolds `operand` under the bind of `flat_step` -/
theorem ite_bind {α β : Type} (c : Prop) [Decidable c] (x y : Option α) (f : α → Option β) :
    (if c then x else y).bind f = if c then x.bind f else y.bind f := by
  split <;> rfl

theorem flat_end {t : OpTable} {keep : Bool} {code : Bytes} {i ext : Nat} (h : ¬ i < code.length) :
    flat t keep code i ext = some [] := by
  rw [flat, dif_neg h]

/-- enough for a loop that spends one unit of fuel per instruction: one per remaining byte, plus one -/
abbrev Enough (code : Bytes) (fuel i : Nat) : Prop := code.length + 1 ≤ fuel + i

/-- the induction all loops of this family are compared by -/
theorem fuel_induction (code : Bytes) {P : Nat → Nat → Prop}
    (hend : ∀ f i, ¬ i < code.length → P f i)
    (hstep : ∀ f i, i < code.length → (∀ i', i < i' → P f i') → P (f + 1) i) :
    ∀ f i, Enough code f i → P f i := by
  intro f
  induction f with
  | zero => intro i h; exact hend 0 i (by omega)
  | succ f ih =>
    intro i h
    by_cases hi : i < code.length
    · exact hstep f i hi fun i' hlt => ih i' (by omega)
    · exact hend _ i hi

theorem offset_induction (code : Bytes) {P : Nat → Prop} (hend : ∀ i, ¬ i < code.length → P i)
    (hstep : ∀ i, i < code.length → (∀ i', i < i' → P i') → P i) : ∀ i, P i :=
  fun i => fuel_induction code (P := fun _ i => P i) (fun _ => hend) (fun _ => hstep) (code.length + 1) i
    (by omega)

def IsBytes (code : Bytes) : Prop := ∀ b ∈ code, b < 256

theorem flat_mem (t : OpTable) (keep : Bool) (code : Bytes) :
    ∀ i ext ops, flat t keep code i ext = some ops →
      ∀ x ∈ ops, x.2.1 ∈ code ∧ (t.hasArg x.2.1 = false → x.2.2 = none) := by
  refine offset_induction code (fun i hi ext ops hf => ?_) (fun i hi ih ext ops hf => ?_)
  · rw [flat_end hi] at hf; cases hf; simp
  · simp only [flat_step t keep code ext hi, Option.bind_eq_bind, Option.bind_eq_some_iff] at hf
    obtain ⟨arg, ha, rest, hr, hf⟩ := hf
    cases hf
    intro x hx
    rcases List.mem_cons.mp hx with rfl | hx
    · refine ⟨List.getElem_mem hi, fun h => ?_⟩
      rw [operand, h] at ha; exact (Option.some.inj ha).symm
    · have := size_pos t code[i]
      exact ih _ (by omega) _ rest hr x hx

/-- what the nested loop relies on (`size` holds of every table: `size_eq`) -/
structure TableOk (t : OpTable) : Prop where
  extHasArg : ∀ op, op < 256 → isExtName t op = true → t.hasArg op = true
  size : ∀ op, op < 256 → t.instrSizeOf op = if py36 t then 2 else if t.hasArg op then 3 else 1

/-- what one call of get_logical_instruction_at_offset contributes to the flat stream -/
def GroupRel (t : OpTable) (code : Bytes) (i ext : Nat) : Except DErr (List Instr) → Prop
  | .error _ => flat t false code i ext = none
  | .ok g => ∃ last, g.getLast? = some last ∧ i ≤ last.offset ∧
      flat t false code i ext = do
        let rest ← flat t false code (last.offset + t.instrSizeOf last.opcode) 0
        pure (g.map tri ++ rest)

theorem idx_eq (code : Bytes) (i : Nat) : idx code i = match code[i]? with
    | some b => .ok b
    | none => .error .indexError := rfl

theorem ok_bind {ε α β : Type} (a : α) (f : α → Except ε β) : (Except.ok a >>= f) = f a := rfl

theorem logicalGo_end (t : OpTable) (code : Bytes) (es f i cnt ext : Nat) (h : ¬ i < code.length) :
    logicalGo t code es f i cnt ext = .ok [] := by
  cases f with
  | zero => rfl
  | succ f => simp [logicalGo, h]

/-- at an operand-less opcode `logicalGo` passes the prefix on unchanged, but the group ends there,
    EXTENDED_ARG taking an operand (`hx`): hence `pending t false` -/
theorem logicalGo_step (t : OpTable) (code : Bytes) (es f cnt ext : Nat) {i : Nat} (h : i < code.length)
    (hx : isExtName t code[i] = true → t.hasArg code[i] = true) :
    logicalGo t code es (f + 1) i cnt ext =
      match operand t code i ext code[i] with
      | none => .error .indexError
      | some arg =>
        let ins : Instr := ⟨i, code[i], arg, t.instrSizeOf code[i] + cnt * es, cnt != 0⟩
        if isExtName t code[i] then do
          let rest ← logicalGo t code es f (i + t.instrSizeOf code[i]) (cnt + 1) (pending t false code[i] ext arg)
          pure (ins :: rest)
        else pure [ins] := by
  rw [logicalGo, if_pos h, idx_eq, List.getElem?_eq_getElem h, operand]
  dsimp only [ok_bind]
  rw [size_eq]
  unfold pending
  cases ha : t.hasArg code[i]
  · rw [show isExtName t code[i] = false from Bool.eq_false_iff.mpr fun h => by rw [hx h] at ha; cases ha]
    cases py36 t <;> rfl
  · cases py36 t
    · rw [idx_eq, idx_eq]; cases code[i + 1]? <;> cases code[i + 2]? <;> rfl
    · rw [idx_eq]; cases code[i + 1]? <;> rfl

theorem group_rel (t : OpTable) (code : Bytes) (ok : TableOk t) (hbytes : IsBytes code) (es : Nat) :
    ∀ f i, Enough code f i → ∀ cnt ext, i < code.length →
      GroupRel t code i ext (logicalGo t code es f i cnt ext) := by
  refine fuel_induction code (fun f i hi cnt ext h => absurd h hi) (fun f i hi ih cnt ext _ => ?_)
  have hs := size_pos t code[i]
  have hfl := flat_step t false code ext hi
  rw [logicalGo_step t code es f cnt ext hi (ok.extHasArg _ (hbytes _ (List.getElem_mem hi)))]
  generalize operand t code i ext code[i] = o at hfl ⊢
  cases o with
  | none => exact hfl  -- the code string ends inside the operand: both fail
  | some arg =>
    dsimp only [Option.bind_eq_bind, Option.bind_some] at hfl ⊢
    -- the group ends here: after another opcode, or with an EXTENDED_ARG at the end of the code
    have single : (isExtName t code[i] = true → ¬ i + t.instrSizeOf code[i] < code.length) →
        GroupRel t code i ext (.ok [⟨i, code[i], arg, t.instrSizeOf code[i] + cnt * es, cnt != 0⟩]) := by
      intro h0
      refine ⟨⟨i, code[i], arg, _, _⟩, rfl, Nat.le_refl i, ?_⟩
      rw [hfl]
      cases hx : isExtName t code[i]
      · cases arg <;> simp only [pending, hx] <;> rfl
      · rw [flat_end (h0 hx), flat_end (h0 hx)]; rfl
    by_cases hx : isExtName t code[i] = true
    · rw [if_pos hx]
      by_cases hl : i + t.instrSizeOf code[i] < code.length
      · have hr := ih _ (by omega) (cnt + 1) (pending t false code[i] ext arg) hl
        generalize logicalGo t code es f _ _ _ = r at hr ⊢
        cases r with
        | error e =>
          show flat t false code i ext = none
          rw [hfl, show flat t false code _ _ = none from hr]; rfl
        | ok g =>
          obtain ⟨last, hl, hle, hf⟩ := hr
          have hne : g ≠ [] := by intro h; subst h; simp at hl
          refine ⟨last, ?_, by omega, ?_⟩
          · show (_ :: g).getLast? = some last
            rw [List.getLast?_cons_of_ne_nil hne]; exact hl
          · rw [hfl, hf]
            cases flat t false code (last.offset + t.instrSizeOf last.opcode) 0 <;> rfl
      · rw [logicalGo_end t code es f _ (cnt + 1) _ hl]
        exact single fun _ => hl
    · rw [if_neg hx]
      exact single fun h => absurd h hx

theorem stream_flat (t : OpTable) (code : Bytes) (ok : TableOk t) (hbytes : IsBytes code) :
    ∀ f i, Enough code f i →
      (instrsGo t code f i).toOption.map (List.map tri) = flat t false code i 0 := by
  refine fuel_induction code (fun f i hi => ?_) (fun f i hi ih => ?_)
  · rw [flat_end hi]; cases f <;> simp [instrsGo, hi, Except.toOption]
  · have hg := group_rel t code ok hbytes (extSize t) (code.length + 1) i (by omega) 0 0 hi
    rw [instrsGo]
    simp only [hi, ↓reduceIte, logicalAt]
    generalize logicalGo t code _ _ i 0 0 = r at hg ⊢
    cases r with
    | error e => rw [show flat t false code i 0 = none from hg]; rfl
    | ok g =>
      obtain ⟨last, hl, hle, hf⟩ := hg
      simp only [ok_bind, hl]
      have hs := size_pos t last.opcode
      rw [hf, ← ih _ (by omega), ToOption.bind]
      cases (instrsGo t code f (last.offset + t.instrSizeOf last.opcode)).toOption with
      | none => rfl
      | some rest => simp [ToOption.pure]

structure DisOk (t : OpTable) (d : Spec.Dis.DisTbl) : Prop where
  takes : ∀ op, op < 256 → t.hasArg op = decide (op ≥ d.haveArgument)
  ext : ∀ op, op < 256 → isExtName t op = (d.extendedArg == some op)
  era : py36 t = verGe d.version 3 6
  lt311 : verGe d.version 3 11 = false
  lt312 : verGe d.version 3 12 = false

/-- CPython ≤ 3.5 keeps a pending prefix across an operand-less opcode -/
theorem flat_spec_27 (t : OpTable) (d : Spec.Dis.DisTbl) (code : Bytes) (dk : DisOk t d)
    (hbytes : IsBytes code) (h6 : py36 t = false) :
    ∀ f i, Enough code f i → ∀ ext, Spec.Dis.unpack27Go d code f i ext = flat t true code i ext := by
  refine fuel_induction code (fun f i hi ext => ?_) (fun f i hi ih ext => ?_)
  · rw [flat_end hi]; cases f <;> simp [Spec.Dis.unpack27Go, hi]
  · have hop := hbytes _ (List.getElem_mem hi)
    rw [Spec.Dis.unpack27Go, flat_step t true code ext hi]
    simp only [operand, pending, size_eq, ite_bind, hi, ↓reduceIte, List.getElem?_eq_getElem hi, Option.bind_eq_bind,
      Option.bind_assoc, Option.bind_some, h6, Bool.false_eq_true, dk.takes _ hop, dk.ext _ hop, decide_eq_true_eq,
      ih (i + 1) (by omega), ih (i + 3) (by omega)]
    exact ite_congr rfl (fun ha => by rw [if_pos ha]) (fun ha => by rw [if_neg ha])

/-- CPython 3.6–3.9 keeps it too, 3.10 drops it -/
theorem flat_spec_word (t : OpTable) (d : Spec.Dis.DisTbl) (code : Bytes) (dk : DisOk t d)
    (hbytes : IsBytes code) (h6 : py36 t = true) :
    ∀ f i, Enough code f i → ∀ ext,
      Spec.Dis.unpackWordGo d code f i ext 0 = flat t (!verGe d.version 3 10) code i ext := by
  refine fuel_induction code (fun f i hi ext => ?_) (fun f i hi ih ext => ?_)
  · rw [flat_end hi]; cases f <;> simp [Spec.Dis.unpackWordGo, hi]
  · have hop := hbytes _ (List.getElem_mem hi)
    rw [Spec.Dis.unpackWordGo, flat_step t _ code ext hi]
    simp only [operand, pending, size_eq, ite_bind, hi, ↓reduceIte, List.getElem?_eq_getElem hi, Option.bind_eq_bind,
      Option.bind_assoc, Option.bind_some, h6, Nat.lt_irrefl, dk.lt311, dk.lt312, Bool.false_eq_true, Bool.false_and,
      dk.takes _ hop, dk.ext _ hop, decide_eq_true_eq, ih (i + 2) (by omega)]
    cases verGe d.version 3 10 <;> rfl

theorem unpack_27 (t : OpTable) (d : Spec.Dis.DisTbl) (code : Bytes) (dk : DisOk t d)
    (hbytes : IsBytes code) (h6 : py36 t = false) : Spec.Dis.unpack d code = flat t true code 0 0 := by
  rw [Spec.Dis.unpack, ← dk.era, h6, if_neg Bool.false_ne_true]
  exact flat_spec_27 t d code dk hbytes h6 _ 0 (Nat.le_refl _) 0

theorem unpack_word (t : OpTable) (d : Spec.Dis.DisTbl) (code : Bytes) (dk : DisOk t d)
    (hbytes : IsBytes code) (h6 : py36 t = true) :
    Spec.Dis.unpack d code = flat t (!verGe d.version 3 10) code 0 0 := by
  rw [Spec.Dis.unpack, ← dk.era, h6, if_pos rfl]
  exact flat_spec_word t d code dk hbytes h6 _ 0 (Nat.le_refl _) 0

/-- the pending EXTENDED_ARG prefix is 0 whenever an operand-less opcode is reached
    (CPython before 3.10 would carry it over that opcode, xdis drops it) -/
def carryOk (t : OpTable) (code : Bytes) : Nat → Nat → Nat → Bool
  | 0, _, _ => true
  | fuel + 1, i, ext =>
    if i < code.length then
      match code[i]? with
      | none => true
      | some op =>
        if t.hasArg op then
          if py36 t then
            match code[i + 1]? with
            | none => true
            | some b => carryOk t code fuel (i + 2) (if isExtName t op then (b ||| ext) <<< 8 else 0)
          else
            match code[i + 1]?, code[i + 2]? with
            | some b1, some b2 =>
              carryOk t code fuel (i + 3) (if isExtName t op then (b1 + b2 * 0x100 + ext) * 0x10000 else 0)
            | _, _ => true
        else ext == 0 && carryOk t code fuel (if py36 t then i + 2 else i + 1) 0
    else true

def CarryOk (t : OpTable) (code : Bytes) : Prop := carryOk t code (code.length + 1) 0 0 = true

theorem carryOk_step (t : OpTable) (code : Bytes) (f ext : Nat) {i : Nat} (h : i < code.length) :
    carryOk t code (f + 1) i ext =
      match operand t code i ext code[i] with
      | none => true
      | some arg => (arg.isSome || ext == 0) &&
          carryOk t code f (i + t.instrSizeOf code[i]) (pending t false code[i] ext arg) := by
  rw [carryOk, if_pos h, List.getElem?_eq_getElem h, operand, size_eq]
  dsimp only
  unfold pending
  cases t.hasArg code[i] <;> cases py36 t
  · rfl
  · rfl
  · cases code[i + 1]? <;> cases code[i + 2]? <;> rfl
  · cases code[i + 1]? <;> rfl

theorem flat_keep (t : OpTable) (code : Bytes) :
    ∀ f i, Enough code f i → ∀ ext, carryOk t code f i ext = true →
      flat t true code i ext = flat t false code i ext := by
  refine fuel_induction code (fun f i hi ext _ => ?_) (fun f i hi ih ext hc => ?_)
  · rw [flat_end hi, flat_end hi]
  · have hs := size_pos t code[i]
    rw [carryOk_step t code f ext hi] at hc
    rw [flat_step t true code ext hi, flat_step t false code ext hi]
    generalize operand t code i ext code[i] = o at hc ⊢
    cases o with
    | none => rfl
    | some arg =>
      simp only [Bool.and_eq_true, Bool.or_eq_true, beq_iff_eq] at hc
      have hp : pending t true code[i] ext arg = pending t false code[i] ext arg := by
        cases arg with
        | some a => rfl
        | none => exact hc.1.elim (nomatch ·) fun h => by rw [h]; rfl
      simp only [Option.bind_eq_bind, Option.bind_some, hp, ih _ (by omega) _ hc.2]

theorem flat_carry (t : OpTable) (code : Bytes) (hc : CarryOk t code) (keep : Bool) :
    flat t keep code 0 0 = flat t false code 0 0 := by
  cases keep
  · rfl
  · exact flat_keep t code _ 0 (Nat.le_refl _) 0 hc

/-- for a table whose per-opcode facts hold (`TableOk`, `DisOk`), for EVERY byte string `code`, xdis's nested
    decoder and CPython's `_unpack_opargs` produce the same (offset, opcode, operand) stream, or both fail on a
    truncated operand — provided `CarryOk` (not needed from 3.10) -/
theorem C02_stream (t : OpTable) (d : Spec.Dis.DisTbl) (code : Bytes) (ok : TableOk t) (dk : DisOk t d)
    (hbytes : IsBytes code)
    (hc : (verGe d.version 3 10 = true ∧ py36 t = true) ∨ CarryOk t code) :
    (instrs t code).toOption.map (List.map tri) = Spec.Dis.unpack d code := by
  rw [instrs, stream_flat t code ok hbytes _ 0 (Nat.le_refl _)]
  cases h6 : py36 t with
  | true =>
    rw [unpack_word t d code dk hbytes h6]
    rcases hc with hc | hc
    · rw [hc.1]; rfl
    · exact (flat_carry t code hc _).symm
  | false =>
    rw [unpack_27 t d code dk hbytes h6]
    rcases hc with hc | hc
    · rw [h6] at hc; exact absurd hc.2 Bool.false_ne_true
    · exact (flat_carry t code hc _).symm

end XV.Props.C02
