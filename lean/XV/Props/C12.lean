/-
C12 — Listings are total, faithful to the instruction stream, and clean.
Model = XV.Model.Listing (transcription of Bytecode.disassemble_bytes' loop and of
disco_loop's queue).  The theorems say, for every instruction list of any length:
the rows of the listing are exactly the instructions the format shows, once each and
in order, with the stream's offset / opcode / operand / jump-target flag, and with the
stream's line number (or, in pre-2.3 code, the operand of the SET_LINENO before it);
every code object of the constant tree is listed exactly once; and the only
print()/sys.stdout.write() sites reachable from disassemble_file in the call graph
extracted on this run are the two allowed ones.
-/
import XV.Model.Listing
import XV.Gen.Effects
namespace XV.Props.C12
open XV XV.Model.Listing

/-- the SET_LINENO carry: the instruction after a SET_LINENO is shown with that line -/
def carry : Bool → Nat → List LI → List LI
  | _, _, [] => []
  | ls, n, i :: is =>
    (if ls then { i with startsLine := some n } else i) ::
      carry i.isSetLineno (if i.isSetLineno then i.argval else n) is

def keep (fmt : Fmt) (i : LI) : Bool := !(i.isCache && !(showsCache fmt))

def toRow (i : LI) : Out := .row i.offset i.opcode i.arg i.startsLine i.jt

def rows (os : List Out) : List Out := os.filter isRow

theorem rows_append (a b : List Out) : rows (a ++ b) = rows a ++ rows b := by simp [rows]

theorem rows_opt (c : Bool) (o : Out) (ho : isRow o = false) : rows (if c then [o] else []) = [] := by
  cases c <;> simp [rows, ho]

/-- from a state whose two EXTENDED_ARG variables are None; outside "asm" they stay None -/
theorem step_rows (fmt : Fmt) (h : fmt ≠ .asm) (sl ls : Bool) (n : Nat) (i : LI) :
    (step fmt sl { setNo := n, lastSet := ls } i).1 =
      { setNo := if i.isSetLineno then i.argval else n, lastSet := i.isSetLineno } ∧
    rows (step fmt sl { setNo := n, lastSet := ls } i).2 =
      ([if ls then { i with startsLine := some n } else i].filter (keep fmt)).map toRow := by
  simp only [step, beq_false_of_ne h, truthy, Bool.and_false, Bool.false_eq_true, if_false, Bool.false_or]
  generalize hj : (if ls = true then ({ i with startsLine := some n } : LI) else i) = j
  have h1 : j.isSetLineno = i.isSetLineno := by subst hj; split <;> rfl
  have h2 : j.argval = i.argval := by subst hj; split <;> rfl
  rw [h1, h2, List.filter_cons, List.filter_nil, keep]
  cases j.isCache && !showsCache fmt
  · refine ⟨rfl, ?_⟩
    show rows (_ ++ [toRow j] ++ _) = [toRow j]
    rw [rows_append, rows_append, rows_opt _ .blank rfl, rows_opt _ .warn rfl]; rfl
  · exact ⟨rfl, rows_opt _ .blank rfl⟩

theorem run_rows (fmt : Fmt) (h : fmt ≠ .asm) (sl : Bool) (is : List LI) (ls : Bool) (n : Nat) :
    rows (run fmt sl { setNo := n, lastSet := ls } is) = ((carry ls n is).filter (keep fmt)).map toRow := by
  induction is generalizing ls n with
  | nil => rfl
  | cons i is ih =>
    obtain ⟨p1, p2⟩ := step_rows fmt h sl ls n i
    rw [run, rows_append, p1, p2, ih, carry, ← List.map_append, ← List.filter_append, List.singleton_append]

/-- in the classic, bytes, extended and extended-bytes formats the rows of the
    listing are the shown instructions — each exactly once, in stream order — carrying the
    stream's offset, opcode, operand, '>>' flag and line number (after the SET_LINENO carry) -/
theorem C12_rows (fmt : Fmt) (h : fmt ≠ .asm) (sl : Bool) (is : List LI) :
    rows (listing fmt sl is) = ((carry false 0 is).filter (keep fmt)).map toRow :=
  run_rows fmt h sl is false 0

theorem carry_id (is : List LI) (h : ∀ i ∈ is, i.isSetLineno = false) (n : Nat) : carry false n is = is := by
  induction is generalizing n with
  | nil => rfl
  | cons i is ih =>
    have hi := h i (by simp)
    simp only [carry, hi, Bool.false_eq_true, if_false]
    rw [ih (fun j hj => h j (by simp [hj]))]

/-- from 2.3 on, the rows are literally the stream (minus hidden CACHE entries):
    same offsets, names, operands, the '>>' flag iff is_jump_target, the line number iff starts_line -/
theorem C12_faithful (fmt : Fmt) (h : fmt ≠ .asm) (sl : Bool) (is : List LI)
    (hs : ∀ i ∈ is, i.isSetLineno = false) :
    rows (listing fmt sl is) = (is.filter (keep fmt)).map toRow := by
  rw [C12_rows fmt h sl is, carry_id is hs]

/-- in classic format exactly the non-CACHE instructions appear -/
theorem C12_classic_noncache (sl : Bool) (is : List LI) (hs : ∀ i ∈ is, i.isSetLineno = false) :
    rows (listing .classic sl is) = (is.filter (fun i => !i.isCache)).map toRow := by
  rw [C12_faithful .classic (by decide) sl is hs]
  congr 1
  congr 1
  funext i; simp [keep, showsCache]

/-- in bytes format every instruction appears, CACHE entries included -/
theorem C12_bytes_all (sl : Bool) (is : List LI) (hs : ∀ i ∈ is, i.isSetLineno = false) :
    rows (listing .bytes sl is) = is.map toRow := by
  rw [C12_faithful .bytes (by decide) sl is hs]
  congr 1
  apply List.filter_eq_self.mpr
  intro i _; simp [keep, showsCache]

theorem carry_offsets (is : List LI) : ∀ ls n,
    (carry ls n is).map (fun i => (i.offset, i.opcode, i.arg, i.jt, i.isCache)) =
    is.map (fun i => (i.offset, i.opcode, i.arg, i.jt, i.isCache)) := by
  induction is with
  | nil => intros; rfl
  | cons i is ih => intro ls n; cases ls <;> simp [carry, ih]

/-- non-vacuity: a 3.11-style stream with a CACHE entry and a jump target -/
def ex : List LI :=
  [ { offset := 0, opcode := 151, arg := some 0, argval := 0, startsLine := some 0, jt := false, isSetLineno := false, isExtArg := false, isCache := false, isReserveFast := false },
    { offset := 2, opcode := 116, arg := some 1, argval := 0, startsLine := some 1, jt := false, isSetLineno := false, isExtArg := false, isCache := false, isReserveFast := false },
    { offset := 4, opcode := 0, arg := some 0, argval := 0, startsLine := none, jt := false, isSetLineno := false, isExtArg := false, isCache := true, isReserveFast := false },
    { offset := 6, opcode := 83, arg := none, argval := 0, startsLine := none, jt := true, isSetLineno := false, isExtArg := false, isCache := false, isReserveFast := false } ]

example : listing .classic true ex =
    [.row 0 151 (some 0) (some 0) false, .blank, .row 2 116 (some 1) (some 1) false, .row 6 83 none none true] := by decide
example : rows (listing .bytes true ex) = ex.map toRow := by decide

/-- pre-2.3: `SET_LINENO 7 ; LOAD_CONST` shows 7 on the LOAD_CONST -/
example : listing .classic true
    [ { offset := 0, opcode := 127, arg := some 7, argval := 7, startsLine := none, jt := false, isSetLineno := true, isExtArg := false, isCache := false, isReserveFast := false },
      { offset := 3, opcode := 100, arg := some 0, argval := 0, startsLine := none, jt := false, isSetLineno := false, isExtArg := false, isCache := false, isReserveFast := false } ] =
    [.row 0 127 (some 7) none false, .blank, .row 3 100 (some 0) (some 7) false] := by decide

theorem pres_append (a b : List CTree) : pres (a ++ b) = pres a ++ pres b := by
  induction a with
  | nil => simp [pres]
  | cons t ts ih => simp [pres, ih]

/-- the queue lists a permutation of the code objects of the constant tree
    (each exactly once); that the first one is the module is `C12_queue_first` -/
theorem C12_queue (q : List CTree) : (bfs q).Perm (pres q) := by
  fun_induction bfs q with
  | case1 => simp [pres]
  | case2 i ks q ih =>
    simp only [pres, CTree.pre, List.cons_append]
    refine List.Perm.cons i (ih.trans ?_)
    rw [pres_append]
    exact List.perm_append_comm

theorem C12_queue_first (i : Nat) (ks : List CTree) : (bfs [.node i ks]).head? = some i := by
  simp [bfs]

example : bfs [.node 0 [.node 1 [.node 3 []], .node 2 []]] = [0, 1, 2, 3] := by simp [bfs]

def allowedFiles : List Str := [str "xdis/dropbox/decrypt25.py", str "xdis/std.py"]

/-- in the call graph extracted from /repo/xdis on this run, every print() /
    sys.stdout.write() site (not directed at an explicit stream) reachable from
    disassemble_file lies in the Dropbox decryptor's self-test or in xdis.std's `_print`
    helper (which takes `file=`); none in the listing path; `> 40` guards against an empty scan -/
theorem C12_clean : (Gen.disasmStdoutFiles.all fun f => allowedFiles.contains f) = true ∧
    Gen.disasmReachable > 40 := by decide

end XV.Props.C12
