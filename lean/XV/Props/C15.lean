/-
C15 — Stack effects equal the interpreter's for every opcode and operand.
`Model.StackEffect.effect t op arg = (effectForm t op).eval arg` holds by definition: the
Model records each `return <expr in oparg>` of xstack_effect as its closed form.  The theorem
compares that form with the reference form of the same opcode (fitted to dis.stack_effect
on a grid of 312 operands up to 2^24) for every opcode of every version with an interpreter;
equal closed forms agree on EVERY operand.
-/
import XV.Model.StackEffect
import XV.Gen.OpTables
import XV.Gen.RefEffects
import XV.Lemmas.LookupSweep
namespace XV.Props.C15
open XV XV.Model XV.Model.StackEffect XV.Spec.StackEffect

/-- forms that denote the same function of the operand (syntactic equality up to the two
    trivial identities the fit can produce) -/
def sameForm (f g : EForm) : Bool :=
  f == g ||
  (match f, g with
   | .const c, .affine 0 c' => c == c'
   | .affine 0 c, .const c' => c == c'
   | _, _ => false)

theorem sameForm_sound (f g : EForm) (h : sameForm f g = true) (a : Nat) : f.eval a = g.eval a := by
  rcases Bool.or_eq_true_iff.1 h with he | hm
  · rw [eq_of_beq he]
  · -- c = c + 0·a
    split at hm
    · simp [EForm.eval, eq_of_beq hm]
    · simp [EForm.eval, eq_of_beq hm]
    · cases hm

def refFormsFor (t : OpTable) : Option (List (Nat × EForm)) :=
  if t.isPypy then none else (Gen.refEffects.find? (fun r => r.1 == t.version)).map (·.2)

/-- reference `rejects` (dis raises ValueError for this opcode) leaves xdis free -/
def opOk (t : OpTable) (p : Nat × EForm) : Bool :=
  match p.2 with
  | .rejects => true
  | g =>
    -- an opcode that takes no operand is only ever asked with oparg = 0
    if t.hasArg p.1 then sameForm (effectForm t p.1) g else (effectForm t p.1).eval 0 == g.eval 0

def tableOk (t : OpTable) : Bool :=
  match refFormsFor t with
  | none => true
  | some fs => fs.all (opOk t)

/-- `rules t op` looks at the table through these six values only -/
theorem rules_congr (t t' : OpTable) (op op' : Nat) (hv : t.version = t'.version)
    (hn : t.opnameOf op = t'.opnameOf op') (hpop : t.oppop.getD op 0 = t'.oppop.getD op' 0)
    (hpush : t.oppush.getD op 0 = t'.oppush.getD op' 0) (hva : t.vargsOps.contains op = t'.vargsOps.contains op')
    (hna : t.nargsOps.contains op = t'.nargsOps.contains op') : rules t op = rules t' op' := by
  unfold rules; simp only [hv, hn, hpop, hpush, hva, hna]

/-- the table as `opOk t (op, ·)` sees it, with opcode `op` renumbered 0: `opname.getD op` and its like walk
    their list from the front for every opcode of a sweep -/
def excerpt (t : OpTable) (op : Nat) (e : Str × Int × Int) : OpTable :=
  { t with opname := [e.1], oppop := [e.2.1], oppush := [e.2.2],
           vargsOps := if t.vargsOps.contains op then [0] else [],
           nargsOps := if t.nargsOps.contains op then [0] else [],
           haveArgument := if t.hasArg op then 0 else 1, hasarg := some (if t.hasArg op then [0] else []) }

theorem opOk_excerpt (t : OpTable) (op : Nat) (g : EForm) (e : Str × Int × Int)
    (h : (t.opname.zip (t.oppop.zip t.oppush))[op]? = some e) : opOk (excerpt t op e) (0, g) = opOk t (op, g) := by
  obtain ⟨hn, hp⟩ := List.getElem?_zip_eq_some.1 h
  obtain ⟨hpop, hpush⟩ := List.getElem?_zip_eq_some.1 hp
  have hf : effectForm (excerpt t op e) 0 = effectForm t op := by
    unfold effectForm
    rw [rules_congr t (excerpt t op e) op 0 rfl] <;>
      simp [excerpt, OpTable.opnameOf, List.getD, hn, hpop, hpush] <;> split <;> simp [*]
  have ha : (excerpt t op e).hasArg 0 = t.hasArg op := by
    show (if verGe t.version 3 13 then ((some (if t.hasArg op then [0] else [])).getD []).contains 0
      else decide (0 ≥ if t.hasArg op then 0 else 1)) = t.hasArg op
    by_cases hb : t.hasArg op = true <;> by_cases h13 : verGe t.version 3 13 = true <;> simp [hb, h13]
  simp only [opOk, hf, ha]

def tableSweepOk (t : OpTable) : Bool :=
  match refFormsFor t with
  | none => true
  | some fs =>
    let tbl := (List.range' 0 t.opname.length).zip (t.opname.zip (t.oppop.zip t.oppush))
    ascending tbl && ascending fs &&
      lookupSweep (fun op v g => v.any fun e => opOk (excerpt t op e) (0, g)) tbl fs

theorem C15_sweep : ∀ t ∈ Gen.allTables, tableSweepOk t = true := by decide +kernel

/-- the table part of C15_main: for every version with a reference interpreter and every opcode
    it defines, xdis's closed form is the reference closed form -/
theorem C15_forms : ∀ t ∈ Gen.allTables, tableOk t = true := by
  intro t ht
  have h := C15_sweep t ht
  unfold tableSweepOk at h
  unfold tableOk
  cases hf : refFormsFor t with
  | none => rfl
  | some fs =>
    simp only [hf, Bool.and_eq_true] at h
    refine List.all_eq_true.2 fun p hp => ?_
    have := lookupSweep_sound h.1.1 h.1.2 h.2 p hp
    have hl := lookup_enum (t.opname.zip (t.oppop.zip t.oppush)) p.1 0 t.opname.length
      (by rw [List.length_zip]; exact Nat.min_le_left ..)
    rw [Nat.zero_add] at hl
    simp only [hl, Option.any_eq_true] at this
    obtain ⟨e, he, hok⟩ := this
    rwa [opOk_excerpt t p.1 p.2 e he] at hok

/-- on every table with reference forms, for every operand-taking opcode and EVERY operand value,
    the effect xdis reports equals the value of the reference form (= dis.stack_effect
    wherever it answers); for an operand-less opcode the two agree at oparg = 0 -/
theorem C15_main (t : OpTable) (ht : t ∈ Gen.allTables) (fs : List (Nat × EForm)) (hfs : refFormsFor t = some fs)
    (op : Nat) (g : EForm) (hop : (op, g) ∈ fs) (hg : g ≠ .rejects) :
    (t.hasArg op = true → ∀ arg, effect t op arg = g.eval arg) ∧
    (t.hasArg op = false → effect t op 0 = g.eval 0) := by
  have h := C15_forms t ht
  rw [tableOk, hfs] at h
  have := List.all_eq_true.1 h (op, g) hop
  rw [opOk] at this
  split at this
  · exact absurd ‹_› hg
  · refine ⟨fun ha arg => sameForm_sound _ _ ?_ arg, fun ha => ?_⟩
    · rwa [if_pos ha] at this
    · rw [if_neg (ne_true_of_eq_false ha)] at this; exact eq_of_beq this

/-- non-vacuity: eight interpreters contribute reference forms -/
example : Gen.refEffects.length = 8 ∧ (Gen.allTables.filter fun t => (refFormsFor t).isSome).length = 8 := by
  decide +kernel

end XV.Props.C15
