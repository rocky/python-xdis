/-
C04 — Jump targets, labels and is_jump_target agree with CPython and with each other.
The target of a jump is affine in (offset, operand) with coefficients that depend only on
(table, opcode).  `jumpForm`/`labelForm` (xdis) and `targetForm` (CPython) expose those
coefficients; lemmas show the transcribed functions evaluate exactly to their forms for
EVERY offset and operand, and the forms agree for every opcode number of every table (`C04_forms`,
`forms_none`).
-/
import XV.Model.Decode
import XV.Spec.Dis
import XV.Spec.OpTables
import XV.Props.C02
import XV.Props.C04.Labels
import XV.Props.C02.Stream311
namespace XV.Props.C04
open XV XV.Model XV.Model.Decode

inductive JForm where
  | rel (m k : Int)
  | abs (m : Int)
  | none
  deriving DecidableEq, Repr

def JForm.eval : JForm → Nat → Nat → Option Int
  | .rel m k, off, arg => some ((off : Int) + k + m * arg)
  | .abs m, _, arg => some (m * arg)
  | .none, _, _ => Option.none

def jumpForm (t : OpTable) (op : Nat) : JForm :=
  if t.constOps.contains op || t.nameOps.contains op then .none
  else if t.isJrel op then
    let nm := t.opnameOf op
    let m : Int := (if isInfix jbName nm then -1 else 1) * (if verGe t.version 3 10 then 2 else 1)
    let k : Int := (t.instrSizeOf op : Int)
      + (if verGe t.version 3 13 && pjNames.contains nm then 2 else 0)
      + (if verGe t.version 3 12 && (nm == forIterName || nm == sendName) then 2 else 0)
    .rel m k
  else if t.isJabs op then .abs (if verGe t.version 3 10 then 2 else 1)
  else .none

theorem jumpArgval_form (t : OpTable) (off op arg size : Nat) (ext : Bool) :
    jumpArgval t { offset := off, opcode := op, arg := some arg, instSize := size, hasExtArg := ext }
      = (jumpForm t op).eval off arg := by
  unfold jumpArgval jumpForm
  simp only
  by_cases h1 : (t.constOps.contains op || t.nameOps.contains op) = true
  · rw [if_pos h1, if_pos h1]; rfl
  · rw [if_neg h1, if_neg h1]
    by_cases h2 : t.isJrel op = true
    · rw [if_pos h2, if_pos h2]
      simp only [JForm.eval]
      congr 1
      repeat' split
      all_goals omega
    · rw [if_neg h2, if_neg h2]
      by_cases h3 : t.isJabs op = true
      · rw [if_pos h3, if_pos h3]
        simp only [JForm.eval]
        congr 1
        repeat' split
        all_goals omega
      · rw [if_neg h3, if_neg h3]; rfl

/-- wordcode.findlabels' per-instruction label, as a form -/
def labelFormWord (t : OpTable) (cache313 : List (Str × Nat)) (op : Nat) : JForm :=
  if t.isJrel op then
    let nm := t.opnameOf op
    let m : Int := (if verGe t.version 3 11 && isInfix jbName nm then -1 else 1) * (if verGe t.version 3 10 then 2 else 1)
    let k : Int := 2 + (if verGe t.version 3 13 then 2 * (cacheSize cache313 nm : Int)
                        else if verGe t.version 3 12 && (Str.eqb nm forIterName || Str.eqb nm sendName) then 2 else 0)
    .rel m k
  else if t.isJabs op then .abs (if verGe t.version 3 10 then 2 else 1)
  else .none

/-- cross_dis.findlabels_pre_310's label -/
def labelFormPre (t : OpTable) (op : Nat) : JForm :=
  if t.isJrel op then .rel 1 (t.instrSizeOf op) else if t.isJabs op then .abs 1 else .none

def labelForm (t : OpTable) (op : Nat) : Option JForm :=
  if t.findlabels == wordFindlabels then some (labelFormWord t Gen.cacheSize313 op)
  else if t.findlabels == crossFindlabels && verLt t.version 3 10 then some (labelFormPre t op)
  else none

def targetForm (d : Spec.Dis.DisTbl) (op : Nat) : JForm :=
  if d.hasjrel.contains op then
    if verLt d.version 3 6 then .rel 1 3
    else if verLt d.version 3 10 then .rel 1 2
    else .rel (if verGe d.version 3 11 && Spec.Dis.isInfix Spec.Dis.jbName (Spec.Dis.nameOf d op) then -2 else 2)
              (2 + (if verGe d.version 3 12 then 2 * (Spec.Dis.cachesOf d op : Int) else 0))
  else if d.hasjabs.contains op then .abs (if verLt d.version 3 10 then 1 else 2)
  else .none

theorem target_form (d : Spec.Dis.DisTbl) (off op arg : Nat) :
    Spec.Dis.target d off op arg = (targetForm d op).eval off arg := by
  unfold Spec.Dis.target targetForm
  by_cases h1 : d.hasjrel.contains op = true
  · rw [if_pos h1, if_pos h1]
    by_cases h2 : verLt d.version 3 6 = true
    · rw [if_pos h2, if_pos h2]; simp [JForm.eval]
    · rw [if_neg h2, if_neg h2]
      by_cases h3 : verLt d.version 3 10 = true
      · rw [if_pos h3, if_pos h3]; simp [JForm.eval]
      · rw [if_neg h3, if_neg h3]
        simp only [JForm.eval]
        congr 1
        repeat' split
        all_goals omega
  · rw [if_neg h1, if_neg h1]
    by_cases h2 : d.hasjabs.contains op = true
    · rw [if_pos h2, if_pos h2]
      by_cases h3 : verLt d.version 3 10 = true
      · simp [h3, JForm.eval]
      · simp [h3, JForm.eval]; omega
    · rw [if_neg h2, if_neg h2]; rfl

/-- the same function as `C02.disTblFor` (by `rfl`); a hypothesis about either is accepted for the other by unfolding -/
def disTblFor (t : OpTable) : Option Spec.Dis.DisTbl :=
  match Spec.OpTables.refFor t with
  | some r => some (Spec.Dis.ofRef r)
  | none => (Spec.OpTables.snapFor t).map Spec.Dis.ofSnap

/-- on every opcode number some jump list mentions, `labelForm` and `jumpForm` are CPython's form (on
    the others all three are `none`: `forms_none`); the table binds a finder this Model transcribes,
    `wordcode.findlabels` from 3.6 on; the label generators shift an EXTENDED_ARG operand by the era's width -/
def formsOk (t : OpTable) : Bool :=
  match disTblFor t with
  | none => false
  | some d =>
    ((t.jrelOps ++ t.jabsOps ++ d.hasjrel ++ d.hasjabs).all fun op => op ≥ 256 ||
      (labelForm t op == some (targetForm d op) && jumpForm t op == targetForm d op)) &&
    (labelForm t 0).isSome && ((t.findlabels == wordFindlabels) == py36 t) &&
    Nat.beq (t.extShift.getD 0) (if py36 t then 8 else 16)

theorem C04_forms : ∀ t ∈ Gen.allTables, formsOk t = true := by decide +kernel

theorem forms_none {t : OpTable} {d : Spec.Dis.DisTbl} {op : Nat} (hb : (labelForm t 0).isSome = true)
    (h : op ∉ t.jrelOps ++ t.jabsOps ++ d.hasjrel ++ d.hasjabs) :
    labelForm t op = some (targetForm d op) ∧ jumpForm t op = targetForm d op := by
  simp only [List.mem_append, not_or] at h
  obtain ⟨⟨⟨h1, h2⟩, h3⟩, h4⟩ := h
  have ht : targetForm d op = .none := by simp [targetForm, h3, h4]
  rw [ht]
  constructor
  · unfold labelForm at hb ⊢
    split
    · simp [labelFormWord, OpTable.isJrel, OpTable.isJabs, h1, h2]
    · rename_i hw
      split
      · simp [labelFormPre, OpTable.isJrel, OpTable.isJabs, h1, h2]
      · rename_i hc; simp [hw, hc] at hb
  · unfold jumpForm; split <;> simp [OpTable.isJrel, OpTable.isJabs, h1, h2]

structure Forms (t : OpTable) (d : Spec.Dis.DisTbl) : Prop where
  label : ∀ op, op < 256 → labelForm t op = some (targetForm d op)
  jump : ∀ op, op < 256 → jumpForm t op = targetForm d op
  word : (t.findlabels == wordFindlabels) = py36 t
  shift : t.extShift.getD 0 = if py36 t then 8 else 16

theorem forms {t : OpTable} (ht : t ∈ Gen.allTables) {d : Spec.Dis.DisTbl} (hd : disTblFor t = some d) :
    Forms t d := by
  have h := C04_forms t ht
  simp only [formsOk, hd, Bool.and_eq_true, List.all_eq_true, Bool.or_eq_true, decide_eq_true_eq, beq_iff_eq] at h
  obtain ⟨⟨⟨hl, hb⟩, hw⟩, hs⟩ := h
  have both : ∀ op, op < 256 → labelForm t op = some (targetForm d op) ∧ jumpForm t op = targetForm d op := by
    intro op hop
    by_cases hm : op ∈ t.jrelOps ++ t.jabsOps ++ d.hasjrel ++ d.hasjabs
    · exact (hl op hm).resolve_left (by omega)
    · exact forms_none hb hm
  exact ⟨fun op hop => (both op hop).1, fun op hop => (both op hop).2, hw, Nat.eq_of_beq_eq_true hs⟩

/-- C04, targets: on every table, for every defined opcode, every offset and every operand
    the argval xdis reports for a jump is the offset CPython transfers control to -/
theorem C04_target (t : OpTable) (ht : t ∈ Gen.allTables) (d : Spec.Dis.DisTbl) (hd : disTblFor t = some d)
    (op : Nat) (hop : op ∈ d.names.map (·.2)) (h256 : op < 256) (off arg size : Nat) (ext : Bool) :
    jumpArgval t { offset := off, opcode := op, arg := some arg, instSize := size, hasExtArg := ext }
      = Spec.Dis.target d off op arg := by
  rw [jumpArgval_form, target_form, (forms ht hd).jump op h256]

/-- the test the decoder sets `is_jump_target` by, `offset in labels`, read as membership (a fact about
    `List.contains`; no Model function occurs) -/
theorem C04_flag (labels : List Int) (off : Nat) : (labels.contains (off : Int)) = true ↔ (off : Int) ∈ labels := by
  simp

/-- non-vacuity: real tables, real jump opcodes (3.12 FOR_ITER has a cache, 3.11 JUMP_BACKWARD negates) -/
example : (disTblFor Gen.opcode_312).map (fun d => targetForm d 93) = some (.rel 2 4) ∧
          (disTblFor Gen.opcode_311).map (fun d => targetForm d 140) = some (.rel (-2) 2) ∧
          (disTblFor Gen.opcode_27).map (fun d => targetForm d 110) = some (.rel 1 3) := by decide +kernel

theorem tgtPre_form (t : OpTable) (off op a : Nat) : tgtPre t off op a = (labelFormPre t op).eval off a := by
  unfold tgtPre labelFormPre
  by_cases h1 : t.isJrel op = true
  · simp [h1, JForm.eval]
  · by_cases h2 : t.isJabs op = true
    · simp [h1, h2, JForm.eval]
    · simp [h1, h2, JForm.eval]

theorem tgtWord_form (t : OpTable) (c : List (Str × Nat)) (off op a : Nat) :
    tgtWord t c off op a = (labelFormWord t c op).eval off a := by
  unfold tgtWord labelFormWord
  by_cases h1 : t.isJrel op = true
  · simp only [h1, if_true, JForm.eval]
    congr 1
    repeat' split
    all_goals omega
  · by_cases h2 : t.isJabs op = true
    · simp only [h1, h2, if_true, Bool.false_eq_true, if_false, JForm.eval]
      congr 1
      repeat' split
      all_goals omega
    · simp [h1, h2, JForm.eval]

theorem Forms.word_finder {t : OpTable} {d : Spec.Dis.DisTbl} (fm : Forms t d) (h6 : py36 t = true) (code : Bytes) :
    Decode.findlabels t Gen.cacheSize313 code = some (findlabelsWord t Gen.cacheSize313 code) ∧
    ∀ off op a, op < 256 → tgtWord t Gen.cacheSize313 off op a = Spec.Dis.target d off op a := by
  have hw : (t.findlabels == wordFindlabels) = true := fm.word.trans h6
  refine ⟨by rw [Decode.findlabels, if_pos hw], fun off op a hop => ?_⟩
  have := fm.label op hop
  rw [labelForm, if_pos hw, Option.some.injEq] at this
  rw [tgtWord_form, target_form, this]

/-- before 3.10 `cross_dis.findlabels` runs `findlabels_pre_310`; that the table binds it follows from its having a
    label form at all (`fm.label 0`) -/
theorem Forms.pre_finder {t : OpTable} {d : Spec.Dis.DisTbl} (fm : Forms t d) (h6 : py36 t = false) (code : Bytes) :
    Decode.findlabels t Gen.cacheSize313 code = some (findlabelsPre310 t code) ∧
    ∀ off op a, op < 256 → tgtPre t off op a = Spec.Dis.target d off op a := by
  have hw : ¬ (t.findlabels == wordFindlabels) = true := by rw [fm.word.trans h6]; exact Bool.false_ne_true
  have hcross : (t.findlabels == crossFindlabels && verLt t.version 3 10) = true := by
    have := fm.label 0 (by omega)
    rw [labelForm, if_neg hw] at this
    split at this
    · assumption
    · cases this
  refine ⟨by rw [Decode.findlabels, if_neg hw, if_pos hcross], fun off op a hop => ?_⟩
  have := fm.label op hop
  rw [labelForm, if_neg hw, if_pos hcross, Option.some.injEq] at this
  rw [tgtPre_form, target_form, this]

/-- on every opcode table of a version before 3.11 that xdis ships, for every byte
    string of any length, the label list `opc.findlabels` returns is `dis.findlabels` of that
    CPython (3.10: provided no EXTENDED_ARG prefix is pending at an operand-less opcode) -/
theorem C04_labels (t : OpTable) (ht : t ∈ Gen.allTables) (d : Spec.Dis.DisTbl) (hd : disTblFor t = some d)
    (h11 : verGe d.version 3 11 = false) (code : Bytes) (hbytes : C02.IsBytes code)
    (hc : verGe d.version 3 10 = true → C02.CarryOk t code) :
    (Decode.findlabels t Gen.cacheSize313 code).map Except.toOption = some (Spec.Dis.findlabels d code) := by
  have ag := C02.agree ht hd
  have fm := forms ht hd
  have gk : GenOk t := ⟨fun op _ => ag.extNum op, fm.shift⟩
  have dk := ag.disOk h11
  cases h6 : py36 t
  · obtain ⟨hfind, htgt⟩ := fm.pre_finder h6 code
    rw [hfind, pre_labels]
    exact congrArg some (labels_agree id (gen_byte t code gk hbytes h6 _ 0 (Nat.le_refl _) 0 rfl)
      (by rw [C02.unpack_27 t d code dk hbytes h6, Option.map_id_fun, id]) (fun _ _ => rfl) hbytes htgt)
  · obtain ⟨hfind, htgt⟩ := fm.word_finder h6 code
    -- xdis's generator keeps a pending prefix across an operand-less opcode; CPython drops it from 3.10
    have hk : C02.flat t (!verGe d.version 3 10) code 0 0 = C02.flat t true code 0 0 := by
      cases h10 : verGe d.version 3 10 with
      | false => rfl
      | true => exact (C02.flat_carry t code (hc h10) true).symm
    rw [hfind, word_labels]
    exact congrArg some (labels_agree id (word_gen t code gk hbytes h6)
      (by rw [C02.unpack_word t d code dk hbytes h6, hk, Option.map_id_fun, id]) (fun _ _ => rfl) hbytes htgt)

/-- on the 3.11, 3.12 and 3.13 tables xdis ships, for every byte string of any
    length laid out with its inline cache slots and with no prefix pending at an operand-less opcode,
    the label list `opc.findlabels` returns is `dis.findlabels` of that CPython (backward jumps,
    the jump's own cache entries in 3.12/3.13 included) -/
theorem C04_labels_311_all (t : OpTable) (ht : t ∈ Gen.allTables) (d : Spec.Dis.DisTbl) (hd : disTblFor t = some d)
    (h11 : verGe d.version 3 11 = true) (code : Bytes) (hbytes : C02.IsBytes code)
    (hck : C02.CacheOk t d code) (hcarry : C02.CarryOk t code) :
    (Decode.findlabels t Gen.cacheSize313 code).map Except.toOption = some (Spec.Dis.findlabels d code) := by
  have ag := C02.agree ht hd
  have fm := forms ht hd
  have dk := ag.disOk311 h11
  obtain ⟨hfind, htgt⟩ := fm.word_finder dk.era code
  rw [hfind, word_labels]
  -- xdis's generator lists the cache slots, as operand-less CACHE code units, which contribute no label
  refine congrArg some (labels_agree (List.filter C02.nc)
    ((word_gen t code ⟨fun op _ => ag.extNum op, fm.shift⟩ hbytes dk.era).trans (C02.flat_carry t code hcarry true))
    (C02.unpack_311 t d code dk hbytes hck) (fun ops h => labelsOf_filter _ C02.nc ops fun x hx hp => h x hx ?_) hbytes htgt)
  rw [show x.2.1 = 0 by simpa [C02.nc] using hp, dk.cacheNoArg]

/-- non-vacuity on real 3.12 code: `for x in a: g(x)` compiled by CPython 3.12.1 (FOR_ITER with its
    cache entry, JUMP_BACKWARD) meets both layout hypotheses -/
def loop312 : Bytes := [151, 0, 124, 0, 68, 0, 93, 10, 0, 0, 125, 2, 2, 0, 124, 1, 124, 2, 171, 1, 0, 0, 0, 0, 0, 0, 1, 0, 140, 12, 4, 0, 121, 0]

example : (match disTblFor Gen.opcode_312 with
    | some d => C02.cacheOk Gen.opcode_312 d loop312 (loop312.length + 1) 0 0 0 | none => false) = true ∧
    C02.carryOk Gen.opcode_312 loop312 (loop312.length + 1) 0 0 = true := by decide +kernel

end XV.Props.C04
