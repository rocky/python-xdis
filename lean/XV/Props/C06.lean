/-
C06 — pyc header is decoded per the file format of the bytecode's version.
-/
import XV.Model.Header
import XV.Spec.PycHeader
import XV.Spec.Magic
import XV.Gen.Layouts
import XV.Props.C01
import XV.Lemmas.LookupSweep
namespace XV.Props.C06
open XV XV.Model XV.Model.Header XV.Spec.PycHeader

def tables : Tables := { tuples := Gen.implTuple, versions := Gen.versionsTbl, pypy3 := Gen.pypy3Magics }

/-- the file `harness/extract.py::probe_header` feeds the implementation: magic, `\r\n`, the flag word, twelve
    bytes 0x11…0x1c (so every field read back is recognisable), forty `N` -/
def probeInput (magic flags : Nat) : Bytes :=
  toLE 2 magic ++ [13, 10] ++ toLE 4 flags ++ (List.range 12).map (· + 0x11) ++ List.replicate 40 78

def outEq (o : Out) (g : Gen.HdrOut) : Bool :=
  match o, g with
  | .ok v t m p s h pos, .ok v' t' m' p' s' h' pos' =>
    v == v' && t.map Int.ofNat == t' && m == m' && p == p' && s.map Int.ofNat == s' && h.map Int.ofNat == h' && pos == pos'
  | .importError, .importError => true
  | .dropbox, _ => true                           -- fix_dropbox_pyc is outside this Model
  | .escaped a, .escaped b => a == b
  | _, _ => false

/-- `load` consults the tuple table for the file's magic and, for a PyPy 3.2 file, for 3187 -/
theorem load_congr (tb tb' : Tables) (data : Bytes) (nm : Bool) (hp : tb.pypy3 = tb'.pypy3)
    (h : ∀ k, k = leNat ((data.take 4).take 2) ∨ k = 3187 → tupleOf tb k = tupleOf tb' k) :
    load tb data nm = load tb' data nm := by
  have h2 : ∀ k, k = leNat ((if (data.head? == some 48) = true then int2magic 3187 else data.take 4).take 2) →
      tupleOf tb k = tupleOf tb' k := by
    intro k hk
    split at hk
    · exact h k (Or.inr hk)
    · exact h k (Or.inl hk)
  unfold load
  simp only [h _ (Or.inl rfl), h2 _ rfl, kindOf, hp]

/-- the two entries of `Gen.implTuple` a probe row of magic `k` can consult, `v` being the first -/
def probeTables (k : Nat) (v : Option (Option (List Nat))) : Tables :=
  { tuples := (v.map (k, ·)).toList ++ ((Gen.implTuple.lookup 3187).map (3187, ·)).toList,
    versions := [], pypy3 := Gen.pypy3Magics }

theorem tupleOf_probeTables (m k : Nat) (hk : k = m ∨ k = 3187) :
    tupleOf tables k = tupleOf (probeTables m (Gen.implTuple.lookup m)) k :=
  (congrArg Option.join (lookup_excerpt Gen.implTuple m 3187 k hk)).symm

/-- both generated tables are sorted by magic, so the rows are checked in one pass (`lookupSweep`),
    each against the two table entries it can consult -/
theorem probe_sweep : (ascending Gen.implTuple && ascending Gen.headerProbe &&
    lookupSweep (fun k v c => decide (k < 65536) && outEq (load (probeTables k v) (probeInput k c.1) false) c.2)
      Gen.implTuple Gen.headerProbe) = true := by decide +kernel

/-- tie T2, kernel-checked: the Model reproduces what `load_module_from_file_object` did on every accepted
    magic × flag word of the probe (regenerated on every run) -/
theorem C06_probe : ∀ r ∈ Gen.headerProbe, outEq (load tables (probeInput r.1 r.2.1) false) r.2.2 = true := by
  intro r hr
  have h := probe_sweep
  simp only [Bool.and_eq_true] at h
  have := lookupSweep_sound h.1.1 h.1.2 h.2 r hr
  simp only [Bool.and_eq_true, decide_eq_true_eq] at this
  rw [load_congr tables (probeTables r.1 (Gen.implTuple.lookup r.1)) _ _ rfl]
  · exact this.2
  · intro k hk
    -- the first two bytes of the probe are `toLE 2` of its magic, by computation
    have hm : leNat (((probeInput r.1 r.2.1).take 4).take 2) = r.1 := leNat_toLE 2 r.1 this.1
    exact tupleOf_probeTables r.1 k (hm ▸ hk)

def kindMatches (k : Kind) (f : Form) : Bool :=
  match k, f with
  | .tsOnly, .tsOnly => true
  | .tsSize, .tsSize => true
  | .pep552 false, .pep552 => true
  | _, _ => false

def kindOk (m : Nat) : Bool :=
  match tupleOf tables m with
  | some v => kindMatches (kindOf tables m v) (formOf v)
  | none => false

/-- every final-release magic (1.0 – 3.13) and the PyPy magics of the corpus -/
theorem C06_kind : ∀ m ∈ C01.releasedMagics ++ [3187, 64, 112, 160, 192, 240], kindOk m = true := by decide +kernel

/-- `kindMatches` leaves one kind per form -/
theorem kind_of_matches (k : Kind) (fm : Form) (h : kindMatches k fm = true) :
    k = match fm with | .tsOnly => .tsOnly | .tsSize => .tsSize | .pep552 => .pep552 false := by
  unfold kindMatches at h
  split at h <;> first | rfl | cases h

/-- C06, fields: for every well-formed field set of the form `k` stands for and every payload,
    the header reader returns exactly the stored timestamp / size / 64-bit hash and the payload offset -/
theorem C06_fields (f : Fields) (hwf : f.WF) (payload : Bytes) (k : Kind) (hk : kindMatches k f.form = true) :
    parseFields k (encode f ++ payload) = some (meaning f) := by
  rw [kind_of_matches k _ hk]
  -- all widths are numerals, so the reader's `take`, `drop`, `head?` and length tests compute on
  -- `toLE 4 _ ++ …`: each `show` is `parseFields` evaluated that far; then every field reads back
  cases f with
  | tsOnly t =>
    show some (some (leNat (toLE 4 t)), none, none, 8) = _
    rw [leNat_toLE 4 t hwf]; rfl
  | tsSize t s =>
    show some (some (leNat (toLE 4 t)), some (leNat (toLE 4 s)), none, 12) = _
    rw [leNat_toLE 4 t hwf.1, leNat_toLE 4 s hwf.2]; rfl
  | pepTs fl t s =>
    obtain ⟨_, he, ht, hs⟩ := hwf
    show (if (fl % 256 &&& 1 ≠ 0) ∨ false = true then _
          else some (some (leNat (toLE 4 t)), some (leNat (toLE 4 s)), none, 16)) = _
    rw [if_neg (by simp [Nat.and_one_is_mod]; omega), leNat_toLE 4 t ht, leNat_toLE 4 s hs]; rfl
  | pepHash fl h =>
    obtain ⟨_, ho, hh⟩ := hwf
    show (if (fl % 256 &&& 1 ≠ 0) ∨ false = true then some (none, none, some (leNat (toLE 8 h)), 16) else _) = _
    rw [if_pos (by simp [Nat.and_one_is_mod]; omega), leNat_toLE 8 h hh]; rfl

/-- non-vacuity: a CHECKED_HASH header (flags = 3) and a timestamp header are well formed -/
example : (Fields.pepHash 3 0x1122334455667788).WF ∧ (Fields.pepTs 0 1700000000 123).WF := by
  constructor <;> simp [Fields.WF]

end XV.Props.C06
