/-
C03_resolve — for every opcode table with a reference interpreter, every opcode that interpreter
defines, every operand and every set of tables: whenever CPython's `dis` resolves the operand
(index in range), xdis's `get_logical_instruction_at_offset` resolves it to the same table entry —
the same table (constants, names, locals, cells/frees or the merged 3.11+ table), the same index
after the version's shift (LOAD_GLOBAL/LOAD_ATTR >> 1, LOAD_SUPER_ATTR >> 2, COMPARE_OP >> 4 / >> 5,
the 3.13 paired operands), comparison operators up to the '-' ↦ ' ' spelling (C03_cmp).
-/
import XV.Props.C03
import XV.Spec.Argval
namespace XV.Props.C03
open XV XV.Model XV.Model.Operand XV.Spec.Argval

/-- which table an operand indexes, and after which shift -/
inductive Sel where
  | const | name (shift : Nat) | pair | lp | varnames | cells | cmp (shift : Nat) | none
  deriving DecidableEq, Repr

/-- the selector of the Model's rule (`resolve`); `selS` below is that of the Spec's (`argval`) -/
def selM (t : OpTable) (op : Nat) : Sel :=
  let nm := t.opnameOf op
  if t.constOps.contains op then .const
  else if t.nameOps.contains op then
    if verGe t.version 3 11 && nm == nmLoadGlobal then .name 1
    else if verGe t.version 3 12 && nm == nmLoadAttr then .name 1
    else if verGe t.version 3 12 && nm == nmLoadSuperAttr then .name 2
    else .name 0
  else if t.isJrel op || t.isJabs op then .none
  else if t.localOps.contains op then
    if verGe t.version 3 13 && (nm == nmLFLF || nm == nmSFLF || nm == nmSFSF) then .pair
    else if verGe t.version 3 11 then .lp else .varnames
  else if t.freeOps.contains op then
    if verGe t.version 3 11 then .lp else .cells
  else if t.compareOps.contains op then
    .cmp (if verGe t.version 3 13 then 5 else if verGe t.version 3 12 then 4 else 0)
  else .none

def selS (r : RefTable) (op : Nat) : Sel :=
  let v := r.version
  if r.hasconst.contains op then .const
  else if r.hasname.contains op then
    if verGe v 3 11 && isOp r nmLoadGlobal op then .name 1
    else if verGe v 3 12 && isOp r nmLoadAttr op then .name 1
    else if verGe v 3 12 && isOp r nmLoadSuperAttr op then .name 2
    else .name 0
  else if r.hasjrel.contains op || r.hasjabs.contains op then .none
  else if verGe v 3 13 && (isOp r nmLFLF op || isOp r nmSFLF op || isOp r nmSFSF op) then .pair
  else if verGe v 3 11 then
    if r.haslocal.contains op || r.hasfree.contains op then .lp
    else if r.hascompare.contains op then .cmp (if verGe v 3 13 then 5 else if verGe v 3 12 then 4 else 0)
    else .none
  else if r.haslocal.contains op then .varnames
  else if r.hascompare.contains op then .cmp 0
  else if r.hasfree.contains op then .cells
  else .none

/-- what a selector denotes (CPython's reading: `none` when the index is out of range) -/
def evalSel (s : Sel) (arg : Nat) (consts names varnames cells lp : List Nat) (cmpOp : List Str) : Option Res :=
  match s with
  | .const => nameAt arg consts
  | .name k => nameAt (arg >>> k) names
  | .pair => pairAt arg lp
  | .lp => nameAt arg lp
  | .varnames => nameAt arg varnames
  | .cells => nameAt arg cells
  | .cmp k => (cmpOp[arg >>> k]?).map .cmp
  | .none => Option.none

theorem shr1 (a : Nat) : a / 2 = a >>> 1 := by simp [Nat.shiftRight_eq_div_pow]
theorem shr2 (a : Nat) : a / 4 = a >>> 2 := by simp [Nat.shiftRight_eq_div_pow]
theorem shr_ite (c : Prop) [Decidable c] (a i j : Nat) :
    a >>> (if c then i else j) = if c then a >>> i else a >>> j :=
  apply_ite (a >>> ·) c i j

/-- `argval` and `selS` are the same tree of `if`s, and `evalSel` moves into the branches -/
theorem argval_sel (r : RefTable) (op arg : Nat) (consts names varnames cells lp : List Nat) :
    argval r op arg consts names varnames cells lp = evalSel (selS r op) arg consts names varnames cells lp r.cmpOp := by
  simp only [argval, selS, apply_ite (evalSel · arg consts names varnames cells lp r.cmpOp)]
  simp only [evalSel, shr_ite, Nat.shiftRight_zero, shr1, shr2]

/-- what a selector denotes in xdis's reading (out of range: `get_name_info`'s raw index for a name,
    IndexError for a constant or an operator) -/
def resolveSel (s : Sel) (arg : Nat) (consts names varnames cells lp : List Nat) (cmpOp : List Str) : Res :=
  match s with
  | .const => match consts[arg]? with | some c => .entry c | none => .indexError
  | .name k => nameInfo (arg >>> k) names
  | .pair => .pair (nameInfo (arg >>> 4) lp) (nameInfo (arg &&& 15) lp)
  | .lp => nameInfo arg lp
  | .varnames => nameInfo arg varnames
  | .cells => nameInfo arg cells
  | .cmp k => match cmpOp[arg >>> k]? with | some c => .cmp c | none => .indexError
  | .none => .notTable

theorem resolve_sel (t : OpTable) (op arg : Nat) (consts names varnames cells : List Nat) :
    resolve t op arg consts names varnames cells =
      resolveSel (selM t op) arg consts names varnames cells (localsplus varnames cells) t.cmpOp := by
  simp only [resolve, selM, apply_ite (resolveSel · arg consts names varnames cells (localsplus varnames cells) t.cmpOp)]
  simp only [resolveSel, shr_ite, Nat.shiftRight_zero]
  -- the two sides differ in the names of the compiled `match`es only
  rfl

/-- comparison operators are spelled with '-' by xdis and ' ' by CPython -/
def normRes : Res → Res
  | .cmp s => .cmp (dashToSpace s)
  | x => x

def isDefinedRef (r : RefTable) (op : Nat) : Bool := r.opmap.any (·.2 == op)

def selOk (t : OpTable) : Bool :=
  match Spec.OpTables.refFor t with
  | none => true
  | some r => (List.range 256).all fun op => !(isDefinedRef r op) || decide (selM t op = selS r op)

/-- `selOk` read over the opcodes CPython defines instead of over all numbers with a definedness test
    (which walks `opmap` once per number) -/
def selDefinedOk (t : OpTable) : Bool :=
  match Spec.OpTables.refFor t with
  | none => true
  | some r => r.opmap.all fun p => p.2 ≥ 256 || decide (selM t p.2 = selS r p.2)

theorem C03_sel_defined : ∀ t ∈ Gen.allTables, selDefinedOk t = true := by decide +kernel

theorem C03_sel_tables : ∀ t ∈ Gen.allTables, selOk t = true := by
  intro t ht
  have h := C03_sel_defined t ht
  unfold selDefinedOk at h
  unfold selOk
  cases hr : Spec.OpTables.refFor t with
  | none => rfl
  | some r =>
    simp only [hr, List.all_eq_true, List.mem_range, Bool.or_eq_true, Bool.not_eq_true', decide_eq_true_eq] at h ⊢
    intro op hop
    cases hdef : isDefinedRef r op
    · exact Or.inl rfl
    · obtain ⟨p, hp, hpo⟩ := List.any_eq_true.1 hdef
      have hpo := beq_iff_eq.1 hpo
      exact Or.inr (hpo ▸ (h p hp).resolve_left (by omega))

theorem natsEq_eqb : ∀ a b : List Nat, Spec.OpTables.natsEq a b = Str.eqb a b
  | [], [] | [], _ :: _ | _ :: _, [] => rfl
  | _ :: as, _ :: bs => congrArg (_ && ·) (natsEq_eqb as bs)

theorem cmp_at (a b : List Str) (hc : (a.zip b).all (fun p => Spec.OpTables.natsEq p.1 (dashToSpace p.2)) = true)
    (hl : a.length ≤ b.length) (i : Nat) (c : Str) (h : a[i]? = some c) :
    ∃ c', b[i]? = some c' ∧ c = dashToSpace c' := by
  obtain ⟨hi, rfl⟩ := List.getElem?_eq_some_iff.1 h
  have hi' : i < b.length := by omega
  refine ⟨b[i], List.getElem?_eq_getElem hi', (Str.eqb_iff _ _).1 ((natsEq_eqb _ _).symm.trans ?_)⟩
  exact List.all_eq_true.1 hc (a[i], b[i]) (List.mem_iff_getElem.2 ⟨i, by simp; omega, by simp⟩)

theorem nameAt_some {i : Nat} {tbl : List Nat} {res : Res} (h : nameAt i tbl = some res) :
    ∃ c, tbl[i]? = some c ∧ Res.entry c = res := Option.map_eq_some_iff.1 h

theorem resolveSel_of_evalSel (s : Sel) (arg : Nat) (consts names varnames cells lp : List Nat) (cmpR cmpM : List Str)
    (hcmp : ∀ (i : Nat) (c : Str), cmpR[i]? = some c → ∃ c', cmpM[i]? = some c' ∧ c = dashToSpace c') (res : Res)
    (h : evalSel s arg consts names varnames cells lp cmpR = some res) :
    normRes (resolveSel s arg consts names varnames cells lp cmpM) = res := by
  cases s with
  | const | name k | lp | varnames | cells =>
    obtain ⟨c, hc, rfl⟩ := nameAt_some h
    simp only [resolveSel, nameInfo, hc, normRes]
  | pair =>
    simp only [evalSel, pairAt, nameAt] at h
    cases ha : lp[arg >>> 4]? <;> cases hb : lp[arg &&& 15]? <;> rw [ha, hb] at h <;> cases h
    simp only [resolveSel, nameInfo, ha, hb, normRes]
  | cmp k =>
    obtain ⟨c, hc, rfl⟩ := Option.map_eq_some_iff.1 h
    obtain ⟨c', hc', rfl⟩ := hcmp _ c hc
    simp only [resolveSel, hc', normRes]
  | none => cases h

/-- the argument of C03_resolve without the tables -/
theorem resolve_of_sel (t : OpTable) (r : RefTable) (op arg : Nat) (consts names varnames cells : List Nat) (res : Res)
    (hsel : selM t op = selS r op)
    (hcmp : ∀ (i : Nat) (c : Str), r.cmpOp[i]? = some c → ∃ c', t.cmpOp[i]? = some c' ∧ c = dashToSpace c')
    (h : argval r op arg consts names varnames cells (localsplus varnames cells) = some res) :
    normRes (resolve t op arg consts names varnames cells) = res := by
  rw [argval_sel, ← hsel] at h
  rw [resolve_sel]
  exact resolveSel_of_evalSel _ _ _ _ _ _ _ _ _ hcmp _ h

/-- the statement of the header; `lp` is the merged 3.11+ table, which xdis rebuilds (C03_split_join);
    `normRes`: comparison operators up to the spelling of '-' -/
theorem C03_resolve (t : OpTable) (ht : t ∈ Gen.allTables) (r : RefTable) (hr : Spec.OpTables.refFor t = some r)
    (op : Nat) (hop : op < 256) (hdef : isDefinedRef r op = true) (arg : Nat)
    (consts names varnames cells lp : List Nat) (hlp : localsplus varnames cells = lp) (res : Res)
    (h : argval r op arg consts names varnames cells lp = some res) :
    normRes (resolve t op arg consts names varnames cells) = res := by
  have hs := C03_sel_tables t ht
  simp only [selOk, hr, List.all_eq_true, List.mem_range, Bool.or_eq_true, Bool.not_eq_true', decide_eq_true_eq] at hs
  have hcm := C03_cmp t ht
  simp only [cmpOk, hr, Bool.and_eq_true, decide_eq_true_eq] at hcm
  subst hlp
  exact resolve_of_sel t r op arg _ _ _ _ res ((hs op hop).resolve_left (by rw [hdef]; simp))
    (cmp_at _ _ hcm.1 hcm.2) h

/-- non-vacuity: CPython 3.12 resolves LOAD_GLOBAL 5 to names[2], LOAD_SUPER_ATTR 9 to names[2];
    3.13 resolves LOAD_FAST_LOAD_FAST 0x21 to the pair (lp[2], lp[1]) — and 116 is defined in the 3.12 reference -/
example : (Spec.OpTables.refFor Gen.opcode_312).bind (fun r => argval r 116 5 [] [10, 20, 30] [] [] []) = some (.entry 30) ∧
    (Spec.OpTables.refFor Gen.opcode_312).bind (fun r => argval r 141 9 [] [10, 20, 30] [] [] []) = some (.entry 30) ∧
    ((Spec.OpTables.refFor Gen.opcode_312).map (fun r => isDefinedRef r 116)) = some true ∧
    (Spec.OpTables.refFor Gen.opcode_313).bind (fun r => argval r 88 0x21 [] [] [] [] [7, 8, 9]) = some (.pair (.entry 9) (.entry 8)) := by
  decide +kernel

end XV.Props.C03
