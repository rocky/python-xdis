/-
C19, round trip for the unsigned format (Code15 / Code2: Python 1.5–2.7).
-/
import XV.Model.LineEnc
import XV.Spec.Lines
import XV.Props.C19
namespace XV.Props.C19
open XV XV.Model.LineEnc XV.Spec.Lines XV.LineTables

theorem splitLine_reads {fuel od ld : Nat} {c : Bytes} {o l : Nat}
    (h : splitLine fuel od ld = (c, o, l)) :
    ∀ u Y, Same startsGo (pairsBy Nat.cast u) ((o, l) :: Y) → Same startsGo (pairsBy Nat.cast (c ++ u)) ((od, ld) :: Y) := by
  fun_induction splitLine fuel od ld generalizing c o l with
  | case1 od ld => cases h; exact fun _ _ h => h
  | case2 fuel od ld hd bs o' l' heq ih =>
    cases h
    intro u Y hu
    have := ((ih heq u Y hu).consStarts (od, 255)).trans (merge_line _ _ _ _)
    rw [show (255 : Int) + ((ld - 255 : Nat) : Int) = ld by omega] at this
    simpa [pairsBy_cons] using this
  | case3 fuel od ld hd => cases h; exact fun _ _ h => h

def Incr : Int → Int → List (Int × Int) → Prop
  | _, _, [] => True
  | po, pl, (o, l) :: rest => po < o ∧ pl ≤ l ∧ Incr o l rest

/-- the line starts of a mapping, as the decoder reports them: an entry is reported when the
    decoder leaves it, unless its line equals the line of the last reported entry -/
def expected (last : Option Int) (line : Int) (addr : Nat) : List (Int × Int) → List (Nat × Int)
  | [] => emit last line addr
  | (o, l) :: rest => emit last line addr ++ expected (some line) l o.toNat rest

theorem round15Go (m : List (Int × Int)) : ∀ (po pl : Int) (last : Option Int), 0 ≤ po → Incr po pl m →
    ∃ tab, encode15Go po pl m = .ok tab ∧
      startsGo (last, pl, po.toNat) (pairsBy Nat.cast tab) = expected last pl po.toNat m := by
  induction m with
  | nil => intro po pl last _ _; exact ⟨[], rfl, rfl⟩
  | cons e rest ih =>
    obtain ⟨o, l⟩ := e
    intro po pl last hpo ⟨ho, hl, hrest⟩
    obtain ⟨tl, htl, hdec⟩ := ih o l (some pl) (by omega) hrest
    rcases h1 : splitBig [255, 0] (o - po).toNat (o - po).toNat with ⟨c1, r⟩
    rcases h2 : splitLine (l - pl).toNat r (l - pl).toNat with ⟨c2, o2, l2⟩
    refine ⟨c1 ++ c2 ++ [o2, l2] ++ tl, ?_, ?_⟩
    · simp [encode15Go, show ¬ l - pl < 0 by omega, show ¬ o - po < 0 by omega, h1, h2, htl]; rfl
    · have := splitBig_reads Nat.cast rfl h1 _ _ _
        (splitLine_reads h2 (o2 :: l2 :: tl) (pairsBy Nat.cast tl) (fun _ => rfl))
      simp only [List.append_assoc, List.cons_append, List.nil_append]
      rw [this, startsGo_pos (by omega), expected, ← hdec,
        show pl + ((l - pl).toNat : Int) = l by omega, show po.toNat + (o - po).toNat = o.toNat by omega]

/-- for every mapping `(0, first), (o₁, l₁), …` with strictly increasing offsets
    and non-decreasing lines — any length, any gaps — Code15/Code2's encoder succeeds and
    CPython ≤ 3.5's `dis.findlinestarts` reads its table back as the mapping's line starts -/
theorem C19_roundtrip15 (first : Int) (rest : List (Int × Int)) (h : Incr 0 first rest) :
    ∃ tab, encode15 first ((0, first) :: rest) = .ok tab ∧
      starts27 first tab = expected none first 0 rest := by
  obtain ⟨tl, htl, hdec⟩ := round15Go rest 0 first none (by omega) h
  refine ⟨0 :: 0 :: tl, ?_, ?_⟩
  · simp [encode15, encode15Go, htl, splitBig, splitLine]; rfl
  · rw [starts27, starts27Go_eq]; simpa [pairs, startsGo, pairsBy] using hdec

/-- non-vacuity, with both kinds of continuation and a repeated line -/
example : Incr 0 10 [(300, 10), (302, 700), (1000, 701)] := by simp [Incr]
example : (encode15 10 [(0, 10), (300, 10), (302, 700), (1000, 701)]).toOption.map (starts27 10) =
    some [(0, 10), (302, 700), (1000, 701)] ∧
    expected none 10 0 [(300, 10), (302, 700), (1000, 701)] = [(0, 10), (302, 700), (1000, 701)] := by
  decide +kernel

end XV.Props.C19
