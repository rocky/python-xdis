/-
C19, round trip for the 3.10 line table (Code310, PEP 626).
-/
import XV.Model.LineEnc
import XV.Spec.Lines
import XV.Lemmas.LineTables
namespace XV.Props.C19.R310
open XV XV.Model.LineEnc XV.Spec.Lines XV.LineTables

/-- a line delta that fits a signed byte and is not the marker -128 reads back as itself -/
theorem entries_enc (sd : Nat) (l : Int) (h1 : -127 ≤ l) (h2 : l ≤ 127) (rest : Bytes) :
    entries (sd :: (l % 256).toNat :: rest) = (sd, some l) :: entries rest := by
  simp [entries, entryOf, decode310]; omega

theorem split310Pos_reads {fuel : Nat} {ld : Int} (hf : ld.natAbs ≤ fuel) {c : Bytes} {l : Int}
    (h : split310Pos fuel ld = (c, l)) :
    l ≤ 127 ∧ (l = ld ∨ 0 < l ∧ l < ld) ∧
    ∀ u sd Y, Same linesGo (entries u) ((sd, some l) :: Y) → Same linesGo (entries (c ++ u)) ((sd, some ld) :: Y) := by
  fun_induction split310Pos fuel ld generalizing c l with
  | case1 ld => cases h; exact ⟨by omega, .inl rfl, fun _ _ _ h => h⟩
  | case2 fuel ld hd bs l' heq ih =>
    cases h
    obtain ⟨b1, b2, e⟩ := ih (by omega) heq
    refine ⟨b1, by omega, fun u sd Y hu => ?_⟩
    have := ((e u sd Y hu).consLines (0, some 127)).trans (merge_line310 _ _ _ _)
    rwa [show (127 : Int) + (ld - 127) = ld by omega] at this
  | case3 fuel ld hd => cases h; exact ⟨by omega, .inl rfl, fun _ _ _ h => h⟩

theorem split310Neg_reads {fuel : Nat} {ld : Int} (hf : ld.natAbs ≤ fuel) {c : Bytes} {l : Int}
    (h : split310Neg fuel ld = (c, l)) :
    -127 ≤ l ∧ (l = ld ∨ l < 0 ∧ ld < l) ∧
    ∀ u sd Y, Same linesGo (entries u) ((sd, some l) :: Y) → Same linesGo (entries (c ++ u)) ((sd, some ld) :: Y) := by
  fun_induction split310Neg fuel ld generalizing c l with
  | case1 ld => cases h; exact ⟨by omega, .inl rfl, fun _ _ _ h => h⟩
  | case2 fuel ld hd bs l' heq ih =>
    cases h
    obtain ⟨b1, b2, e⟩ := ih (by omega) heq
    refine ⟨b1, by omega, fun u sd Y hu => ?_⟩
    have := ((e u sd Y hu).consLines (0, some (-127))).trans (merge_line310 _ _ _ _)
    rwa [show (-127 : Int) + (ld + 127) = ld by omega] at this
  | case3 fuel ld hd => cases h; exact ⟨by omega, .inl rfl, fun _ _ _ h => h⟩

theorem split310Addr_reads {fuel sd : Nat} {ld : Int} (h1 : -127 ≤ ld) (h2 : ld ≤ 127)
    {c : Bytes} {s : Nat} {l : Int} (h : split310Addr fuel sd ld = (c, s, l)) :
    (l = ld ∨ l = 0) ∧
    ∀ u Y, Same linesGo (entries u) ((s, some l) :: Y) → Same linesGo (entries (c ++ u)) ((sd, some ld) :: Y) := by
  fun_induction split310Addr fuel sd ld generalizing c s l with
  | case1 sd ld => cases h; exact ⟨.inl rfl, fun _ _ h => h⟩
  | case2 fuel sd ld hd bs s' l' heq ih =>
    cases h
    obtain ⟨b, e⟩ := ih (by omega) (by omega) heq
    refine ⟨by omega, fun u Y hu => ?_⟩
    have := ((e u Y hu).consLines (254, some ld)).trans (merge_addr310 _ _ _ _)
    rw [show 254 + (sd - 254) = sd by omega] at this
    simpa [entries_enc 254 ld h1 h2] using this
  | case3 fuel sd ld hd => cases h; exact ⟨.inl rfl, fun _ _ h => h⟩

def rep (last : Option Int) (start : Nat) (l : Int) : List (Nat × Int) :=
  if some l ≠ last then [(start, l)] else []

/-- the line starts of a mapping as `findlinestarts` reports them: each entry unless its line is
    the line reported last -/
def exp310 : Option Int → List (Int × Int) → List (Nat × Int)
  | _, [] => []
  | last, (o, l) :: rest => rep last o.toNat l ++ exp310 (some l) rest

/-- offsets start at `po`, increase strictly and end before `codeLen` -/
def Tiles (codeLen : Int) : Int → List (Int × Int) → Prop
  | _, [] => True
  | po, (o, _) :: rest => o = po ∧ o < nextOff codeLen rest ∧ Tiles codeLen (nextOff codeLen rest) rest

theorem round310Go (codeLen : Int) (m : List (Int × Int)) : ∀ (po pl : Int) (last : Option Int), 0 ≤ po →
    Tiles codeLen po m →
    ∃ tab, encode310Go codeLen pl m = .ok tab ∧ linesGo (last, pl, po.toNat) (entries tab) = exp310 last m := by
  induction m with
  | nil => intro po pl last _ _; exact ⟨[], rfl, rfl⟩
  | cons e rest ih =>
    obtain ⟨o, l⟩ := e
    intro po pl last hpo ⟨ho, hlt, hrest⟩
    subst ho
    generalize hend : nextOff codeLen rest = endOff at hlt hrest
    obtain ⟨tl, htl, hdec⟩ := ih endOff l (some l) (by omega) hrest
    rcases h1 : split310Pos (l - pl).natAbs (l - pl) with ⟨c1, l1⟩
    rcases h2 : split310Neg (l - pl).natAbs l1 with ⟨c2, l2⟩
    rcases h3 : split310Addr (endOff - o).toNat (endOff - o).toNat l2 with ⟨c3, s3, l3⟩
    refine ⟨c1 ++ c2 ++ c3 ++ [s3, (l3 % 256).toNat] ++ tl, ?_, ?_⟩
    · simp [encode310Go, hend, show ¬ endOff - o < 0 by omega, h1, h2, h3, htl]; rfl
    · obtain ⟨p1, p2, e1⟩ := split310Pos_reads (Nat.le_refl _) h1
      obtain ⟨n1, n2, e2⟩ := split310Neg_reads (by omega) h2
      obtain ⟨a, e3⟩ := split310Addr_reads n1 (by omega) h3
      have := e1 _ _ _ (e2 _ _ _ (e3 (s3 :: (l3 % 256).toNat :: tl) (entries tl) (fun _ => by
        rw [entries_enc _ _ (by omega) (by omega)])))
      simp only [List.append_assoc, List.cons_append, List.nil_append]
      rw [this, linesGo, if_neg (by omega), exp310, ← hdec,
        show pl + (l - pl) = l by omega, show o.toNat + (endOff - o).toNat = endOff.toNat by omega]
      rfl

/-- for every mapping `(0, l₀), (o₁, l₁), …` whose offsets increase strictly up to the
    end of the code, with ARBITRARY lines — any length, any gaps — the 3.10 encoder succeeds and
    CPython 3.10's `co_lines()` + `findlinestarts` read its table back as the mapping's line starts -/
theorem C19_roundtrip310 (first codeLen : Int) (m : List (Int × Int)) (h : Tiles codeLen 0 m) :
    ∃ tab, encode310 first codeLen m = .ok tab ∧
      startsOfRanges none (coLines310 first tab) = exp310 none m := by
  obtain ⟨tab, h1, h2⟩ := round310Go codeLen m 0 first none (by omega) h
  exact ⟨tab, h1, by rw [coLines310, startsOfRanges_eq]; exact h2⟩

/-- non-vacuity, on the cases of xdis fix bfaef11 (`Code310.encode_lineno_tab`): gaps above 127 and below -127,
    a range longer than 254 bytes, a repeated line -/
example : Tiles 1400 0 [(0, 1000), (4, 1080), (6, 1500), (700, 20), (702, 20)] := by simp [Tiles, nextOff]
example : (encode310 1000 1400 [(0, 1000), (4, 1080), (6, 1500), (700, 20), (702, 20)]).toOption.map
      (fun tab => startsOfRanges none (coLines310 1000 tab)) =
    some [(0, 1000), (4, 1080), (6, 1500), (700, 20)] ∧
    exp310 none [(0, 1000), (4, 1080), (6, 1500), (700, 20), (702, 20)] = [(0, 1000), (4, 1080), (6, 1500), (700, 20)] := by
  decide +kernel

end XV.Props.C19.R310
