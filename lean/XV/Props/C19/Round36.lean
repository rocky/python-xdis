/-
C19, round trip for the SIGNED lnotab format of Python 3.6–3.9, as `Code38` (3.8, 3.9) writes it.
`Code3`, which serves 3.6/3.7, writes the unsigned table (known finding, see the last `example` of C19.lean).
-/
import XV.Props.C19.Round
namespace XV.Props.C19
open XV XV.Model.LineEnc XV.Spec.Lines XV.LineTables

theorem sdelta_enc (l : Int) (h1 : -128 ≤ l) (h2 : l ≤ 127) : sdelta (l % 256).toNat = l := by
  unfold sdelta; split <;> omega

/-- the middle conjunct (the delta left over is the whole delta or strictly between 0 and it) is what bounds the
    fuel `splitNeg` / the last byte need in `round36Go` -/
theorem splitPos_reads {fuel od : Nat} {ld : Int} (hf : ld.natAbs ≤ fuel) {c : Bytes} {o : Nat} {l : Int}
    (h : splitPos fuel od ld = (c, o, l)) :
    l ≤ 127 ∧ (l = ld ∨ 0 < l ∧ l < ld) ∧
    ∀ u Y, Same startsGo (pairsBy sdelta u) ((o, l) :: Y) → Same startsGo (pairsBy sdelta (c ++ u)) ((od, ld) :: Y) := by
  fun_induction splitPos fuel od ld generalizing c o l with
  | case1 od ld => cases h; exact ⟨by omega, .inl rfl, fun _ _ h => h⟩
  | case2 fuel od ld hd bs o' l' heq ih =>
    cases h
    obtain ⟨b1, b2, e⟩ := ih (by omega) heq
    refine ⟨b1, by omega, fun u Y hu => ?_⟩
    have := ((e u Y hu).consStarts (od, 127)).trans (merge_line _ _ _ _)
    rwa [show (127 : Int) + (ld - 127) = ld by omega] at this
  | case3 fuel od ld hd => cases h; exact ⟨by omega, .inl rfl, fun _ _ h => h⟩

theorem splitNeg_reads {fuel od : Nat} {ld : Int} (hf : ld.natAbs ≤ fuel) {c : Bytes} {o : Nat} {l : Int}
    (h : splitNeg fuel od ld = (c, o, l)) :
    -128 ≤ l ∧ (l = ld ∨ l < 0 ∧ ld < l) ∧
    ∀ u Y, Same startsGo (pairsBy sdelta u) ((o, l) :: Y) → Same startsGo (pairsBy sdelta (c ++ u)) ((od, ld) :: Y) := by
  fun_induction splitNeg fuel od ld generalizing c o l with
  | case1 od ld => cases h; exact ⟨by omega, .inl rfl, fun _ _ h => h⟩
  | case2 fuel od ld hd bs o' l' heq ih =>
    cases h
    obtain ⟨b1, b2, e⟩ := ih (by omega) heq
    refine ⟨b1, by omega, fun u Y hu => ?_⟩
    have := ((e u Y hu).consStarts (od, -128)).trans (merge_line _ _ _ _)
    rwa [show (-128 : Int) + (ld + 128) = ld by omega] at this
  | case3 fuel od ld hd => cases h; exact ⟨by omega, .inl rfl, fun _ _ h => h⟩

def IncrOff : Int → List (Int × Int) → Prop
  | _, [] => True
  | po, (o, _) :: rest => po < o ∧ IncrOff o rest

theorem round36Go (m : List (Int × Int)) : ∀ (po pl : Int) (last : Option Int), 0 ≤ po → IncrOff po m →
    ∃ tab, encode36Go po pl m = .ok tab ∧
      startsGo (last, pl, po.toNat) (pairsBy sdelta tab) = expected last pl po.toNat m := by
  induction m with
  | nil => intro po pl last _ _; exact ⟨[], rfl, rfl⟩
  | cons e rest ih =>
    obtain ⟨o, l⟩ := e
    intro po pl last hpo ⟨ho, hrest⟩
    obtain ⟨tl, htl, hdec⟩ := ih o l (some pl) (by omega) hrest
    rcases h1 : splitBig [255, 0] (o - po).toNat (o - po).toNat with ⟨c1, r⟩
    rcases h2 : splitPos (l - pl).natAbs r (l - pl) with ⟨c2, o2, l2⟩
    rcases h3 : splitNeg (l - pl).natAbs o2 l2 with ⟨c3, o3, l3⟩
    refine ⟨c1 ++ c2 ++ c3 ++ [o3, (l3 % 256).toNat] ++ tl, ?_, ?_⟩
    · simp [encode36Go, show ¬ o - po < 0 by omega, h1, h2, h3, htl]; rfl
    · obtain ⟨p1, p2, e2⟩ := splitPos_reads (Nat.le_refl _) h2
      obtain ⟨n1, n2, e3⟩ := splitNeg_reads (by omega) h3
      have := splitBig_reads sdelta rfl h1 _ _ _
        (e2 _ _ (e3 (o3 :: (l3 % 256).toNat :: tl) (pairsBy sdelta tl) (fun _ => by
          rw [pairsBy_cons, sdelta_enc l3 n1 (by omega)])))
      simp only [List.append_assoc, List.cons_append, List.nil_append]
      rw [this, startsGo_pos (by omega), expected, ← hdec,
        show pl + (l - pl) = l by omega, show po.toNat + (o - po).toNat = o.toNat by omega]

/-- for every mapping `(0, first), (o₁, l₁), …` with strictly increasing offsets and ARBITRARY lines
    (gaps ≥ 128, gaps ≥ 256, decreasing lines) — any length — `Code38.encode_lineno_tab` succeeds and
    `dis.findlinestarts` of 3.6/3.7 (equal to that of 3.8/3.9 on tables that stay inside the code,
    `C05.starts38_eq_36`) reads its table back as the mapping's line starts -/
theorem C19_roundtrip36 (first : Int) (rest : List (Int × Int)) (h : IncrOff 0 rest) :
    ∃ tab, encode36 first ((0, first) :: rest) = .ok tab ∧
      starts36 first tab = expected none first 0 rest := by
  obtain ⟨tl, htl, hdec⟩ := round36Go rest 0 first none (by omega) h
  refine ⟨0 :: 0 :: tl, ?_, ?_⟩
  · simp [encode36, encode36Go, htl, splitBig, splitPos, splitNeg]; rfl
  · rw [starts36, starts36Go_eq]; simpa [pairs, startsGo, pairsBy, sdelta] using hdec

/-- non-vacuity, on the cases of xdis fix bfaef11 (`Code38.encode_lineno_tab`): a line gap
    of 128..255, a gap above 255, a decreasing line, a big negative gap, with address continuation -/
example : IncrOff 0 [(510, 1010), (520, 1200), (1520, 40), (1522, 39)] := by simp [IncrOff]
example : (encode36 10 [(0, 10), (510, 1010), (520, 1200), (1520, 40), (1522, 39)]).toOption.map (starts36 10) =
    some [(0, 10), (510, 1010), (520, 1200), (1520, 40), (1522, 39)] ∧
    expected none 10 0 [(510, 1010), (520, 1200), (1520, 40), (1522, 39)] =
      [(0, 10), (510, 1010), (520, 1200), (1520, 40), (1522, 39)] := by
  decide +kernel

end XV.Props.C19
