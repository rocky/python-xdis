/-
C05 — Line-number mapping equals CPython's for every line-table format.
Model = XV.Model.Lines (transcription of xdis); Spec = XV.Spec.Lines (CPython).
-/
import XV.Model.Lines
import XV.Spec.Lines
import XV.Gen.OpTables
import XV.Lemmas.LineTables
namespace XV.Props.C05
open XV XV.Model.Lines XV.LineTables

/-- well-formed lnotab for a code string: every line start lies inside the code
    (what every compiler emits; the 3.8/3.9 cut-off and xdis's own cut-off never fire) -/
def WFoff (codeLen addr : Nat) (ps : List (Nat × Nat)) : Prop :=
  addr + (ps.map (·.1)).sum < codeLen

theorem WFoff.cons {codeLen addr : Nat} {p : Nat × Nat} {ps : List (Nat × Nat)} (h : WFoff codeLen addr (p :: ps)) :
    addr < codeLen ∧ WFoff codeLen (addr + p.1) ps := by
  simp only [WFoff, List.map_cons, List.sum_cons] at *; omega

theorem pairs_eq (tab : Bytes) : Model.Lines.pairs tab = Spec.Lines.pairs tab := by
  fun_induction Model.Lines.pairs tab <;> simp_all [Spec.Lines.pairs]

def delta (signed : Bool) (li : Nat) : Int := if signed ∧ li ≥ 0x80 then (li : Int) - 0x100 else li

theorem lnotabStep_live (signed : Bool) (codeLen : Nat) (s : LState) (bi li : Nat) (hd : s.done = false)
    (hlt : s.offset < codeLen) :
    lnotabStep signed false codeLen s (bi, li) =
      { lastline := if bi = 0 then s.lastline else some s.lineno,
        lineno := s.lineno + delta signed li, offset := s.offset + bi, lastIncr := bi,
        out := if bi = 0 ∨ s.lastline = some s.lineno then s.out else (s.offset, s.lineno) :: s.out,
        done := false } := by
  by_cases hb : bi = 0 <;> by_cases hl : s.lastline = some s.lineno <;>
    simp [lnotabStep, hd, hb, hl, Nat.not_le.mpr hlt, delta]

/-- what `lnotabStarts` returns after the loop when `dup_lines` is false -/
def finishND (r : LState) : List (Nat × Int) :=
  if r.done then r.out.reverse
  else if r.lastline ≠ some r.lineno then ((r.offset, r.lineno) :: r.out).reverse else r.out.reverse

theorem fold_eq (signed : Bool) (codeLen : Nat) (ps : List (Nat × Nat)) (s : LState) (hd : s.done = false)
    (hwf : WFoff codeLen s.offset ps) :
    finishND (ps.foldl (lnotabStep signed false codeLen) s)
      = s.out.reverse ++ startsGo (s.lastline, s.lineno, s.offset) (ps.map fun p => (p.1, delta signed p.2)) := by
  induction ps generalizing s with
  | nil => by_cases hl : s.lastline = some s.lineno <;> simp [finishND, hd, startsGo, hl]
  | cons p ps ih =>
    obtain ⟨bi, li⟩ := p
    rw [List.foldl_cons, lnotabStep_live _ _ _ _ _ hd hwf.cons.1, ih _ rfl hwf.cons.2]
    by_cases hb : bi = 0 <;> by_cases hl : s.lastline = some s.lineno <;> simp [startsGo, hb, hl]

theorem lnotabStarts_eq (signed : Bool) (first : Int) (codeLen : Nat) (tab : Bytes)
    (hwf : WFoff codeLen 0 (Spec.Lines.pairs tab)) :
    lnotabStarts signed false first codeLen tab = startsGo (none, first, 0) (pairsBy (delta signed) tab) := by
  cases tab with
  | nil => rfl
  | cons a t =>
    have := fold_eq signed codeLen (Spec.Lines.pairs (a :: t))
      { lastline := none, lineno := first, offset := 0, lastIncr := 0, out := [], done := false } rfl hwf
    simpa [lnotabStarts, finishND, pairs_eq, pairsBy] using this

/-- Python ≤ 3.5 (tables bound to `findlinestarts_pre36`): unsigned deltas -/
theorem C05_era27 (first : Int) (codeLen : Nat) (tab : Bytes)
    (hwf : WFoff codeLen 0 (Spec.Lines.pairs tab)) :
    lnotabStarts false false first codeLen tab = Spec.Lines.starts27 first tab := by
  rw [lnotabStarts_eq _ _ _ _ hwf, Spec.Lines.starts27, starts27Go_eq]; simp [pairsBy, delta]

/-- Python 3.6, 3.7: signed deltas -/
theorem C05_era36 (first : Int) (codeLen : Nat) (tab : Bytes)
    (hwf : WFoff codeLen 0 (Spec.Lines.pairs tab)) :
    lnotabStarts true false first codeLen tab = Spec.Lines.starts36 first tab := by
  rw [lnotabStarts_eq _ _ _ _ hwf, Spec.Lines.starts36, starts36Go_eq]; simp [pairsBy, delta, Spec.Lines.sdelta]

theorem starts38_eq_36 (codeLen : Nat) (ps : List (Nat × Nat)) (last : Option Int) (line : Int) (addr : Nat)
    (hwf : WFoff codeLen addr ps) :
    Spec.Lines.starts38Go codeLen last line addr ps = Spec.Lines.starts36Go last line addr ps := by
  induction ps generalizing last line addr with
  | nil => rfl
  | cons p ps ih =>
    have hlt : ¬ addr + p.1 ≥ codeLen := by have := hwf.cons.2; unfold WFoff at this; omega
    have ih' := fun last line => ih last line _ hwf.cons.2
    rw [Spec.Lines.starts38Go, Spec.Lines.starts36Go]
    by_cases hb : p.1 = 0
    · simp only [hb, Nat.add_zero] at ih'; simp [hb, ih']
    · by_cases hl : last = some line <;> simp [hb, hl, hlt, ih']

/-- Python 3.8, 3.9 -/
theorem C05_era38 (first : Int) (codeLen : Nat) (tab : Bytes)
    (hwf : WFoff codeLen 0 (Spec.Lines.pairs tab)) :
    lnotabStarts true false first codeLen tab = Spec.Lines.starts38 first codeLen tab := by
  rw [C05_era36 first codeLen tab hwf, Spec.Lines.starts38, starts38_eq_36 _ _ _ _ _ hwf]; rfl

/-- non-vacuity: a table with a 255-split, a zero increment and a negative delta is well formed -/
example : WFoff 400 0 (Spec.Lines.pairs [255, 0, 45, 1, 0, 200, 6, 0xfb]) := by
  unfold WFoff; decide

def findlinestartsName : Str := [99,114,111,115,115,95,100,105,115,46,102,105,110,100,108,105,110,101,115,116,97,114,116,115]
def pre36Name : Str := findlinestartsName ++ [95,112,114,101,51,54]
def name313 : Str := [111,112,99,111,100,101,95,51,49,51,46,102,105,110,100,108,105,110,101,115,116,97,114,116,115,95,51,49,51]
example : findlinestartsName = str "cross_dis.findlinestarts" ∧ pre36Name = str "cross_dis.findlinestarts_pre36"
    ∧ name313 = str "opcode_313.findlinestarts_313" := by decide +kernel

def bindingOk (t : Model.OpTable) : Bool :=
  if Model.verLt t.version 1 5 then true            -- SET_LINENO era: no line table
  else if Model.verLt t.version 3 6 then t.findlinestarts == pre36Name
  else if Model.verLt t.version 3 13 then t.findlinestarts == findlinestartsName
  else t.findlinestarts == name313

/-- every table before 3.6 decodes unsigned, every table 3.6–3.12 decodes signed /
    through co_lines, 3.13 uses its own None-reporting variant -/
theorem C05_binding : ∀ t ∈ Gen.allTables, bindingOk t = true := by decide +kernel

theorem coLines310Go_eq : ∀ (tab : Bytes) (endOff : Nat) (line : Int),
    coLines310Go endOff line (Model.Lines.pairs tab) = Spec.Lines.ranges310 endOff line (Spec.Lines.decode310 tab)
  | [], _, _ => rfl
  | [_], _, _ => rfl
  | a :: b :: rest, endOff, line => by
    simp only [Model.Lines.pairs, coLines310Go, Spec.Lines.decode310, Spec.Lines.ranges310, signed8,
      coLines310Go_eq rest]
    by_cases h128 : (if b ≥ 128 then (b : Int) - 256 else b) = -128 <;> by_cases ha : a = 0 <;> simp [h128, ha]

/-- Code310.co_lines() = CPython 3.10 co_lines() on every even-length table -/
theorem C05_310 (first : Int) (tab : Bytes) (h : tab.length % 2 = 0) :
    coLines310 first tab = some (Spec.Lines.coLines310 first tab) := by
  simp [coLines310, h, Spec.Lines.coLines310, coLines310Go_eq]

/-- findlinestarts over co_lines() ranges = dis.findlinestarts of 3.10–3.12 -/
theorem C05_starts_of_ranges (rs : List (Nat × Nat × Option Int)) :
    startsFromRanges rs = Spec.Lines.startsOfRanges none rs := by
  suffices ∀ last, startsFromRanges.go last rs = Spec.Lines.startsOfRanges last rs from this none
  induction rs with
  | nil => intro _; rfl
  | cons r rs ih =>
    obtain ⟨s, e, _ | line⟩ := r <;> intro last <;> simp only [startsFromRanges.go, Spec.Lines.startsOfRanges, ih]

end XV.Props.C05
