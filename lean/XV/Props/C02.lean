/-
C02 — Instruction stream decodes exactly as CPython's dis does for that version.
Model = XV.Model.Decode (transcription of get_logical_instruction_at_offset /
get_instructions_bytes); Spec = XV.Spec.Dis (dis._unpack_opargs per era).

The kernel checks per table only agreements between scalars of xdis's table and of CPython's opcode
data (`C02_tables`); the per-opcode facts the theorems of C02/Stream*.lean need (`TableOk`, `DisOk`,
`DisOk311`) follow for every opcode number by argument (`Agree`); DESIGN §13.2.  The Bool statements
`C02_decode_facts`, `C02_stream_tables_all`, `C02_stream_tables_311_all` say the same facts opcode by opcode
over the regenerated tables, as the documents name them; they follow from `Agree` too and feed nothing further.
-/
import XV.Model.Decode
import XV.Spec.Dis
import XV.Spec.OpTables
import XV.Lemmas.OpTable
import XV.Props.C02.Stream
import XV.Props.C02.Stream311
namespace XV.Props.C02
open XV XV.Model XV.Model.Decode

def allTrue : List Bool → Bool
  | [] => true
  | b :: bs => b && allTrue bs

def zipAll (f : Nat → Bool) : Nat → List Bool → Bool
  | _, [] => true
  | i, b :: bs => (f i == b) && zipAll f (i + 1) bs

def zipAllN (f : Nat → Nat) : Nat → List Nat → Bool
  | _, [] => true
  | i, b :: bs => Nat.beq (f i) b && zipAllN f (i + 1) bs

/-- the Model's `op_has_argument` / `instruction_size` return what the implementation
    returned for every opcode number of every table -/
def tieHelpersOk (t : OpTable) : Bool :=
  zipAll t.hasArg 0 t.hasArgProbe && zipAllN t.instrSizeOf 0 t.instrSize
    && t.hasArgProbe.length == 256 && t.instrSize.length == 256

theorem C02_tie_helpers : ∀ t ∈ Gen.allTables, tieHelpersOk t = true := by decide +kernel

def specTakes (d : Spec.Dis.DisTbl) (op : Nat) : Bool :=
  if verGe d.version 3 12 then (d.hasarg.getD []).contains op else op ≥ d.haveArgument

/-- CPython's opcode data for a table: the reference interpreter's, or the reviewed snapshot where there is none -/
def disTblFor (t : OpTable) : Option Spec.Dis.DisTbl :=
  match Spec.OpTables.refFor t with
  | some r => some (Spec.Dis.ofRef r)
  | none => (Spec.OpTables.snapFor t).map Spec.Dis.ofSnap

theorem zipAll_getElem? {f : Nat → Bool} : ∀ {bs : List Bool} {k : Nat}, zipAll f k bs = true →
    ∀ i b, bs[i]? = some b → f (k + i) = b
  | [], _, _, i, b, h => by simp at h
  | x :: xs, k, hl, i, b, h => by
    simp only [zipAll, Bool.and_eq_true, beq_iff_eq] at hl
    cases i with
    | zero => simp at h; subst h; exact hl.1
    | succ i =>
      have := zipAll_getElem? hl.2 i b (by simpa using h)
      rwa [Nat.add_assoc, Nat.add_comm 1 i] at this

/-- EXTENDED_ARG by name (what the decoder tests) is EXTENDED_ARG by number (what the table records); one pass
    over `opname`, where `isExtName t op` for every `op` of a sweep would walk the list again for each -/
def extNameOk (t : OpTable) : Bool :=
  zipAll (fun i => t.extendedArg == some i) 0 (t.opname.map (Str.eqb · extName)) &&
    t.extendedArg.all (· < t.opname.length)

theorem isExtName_eq {t : OpTable} (h : extNameOk t = true) (op : Nat) :
    isExtName t op = (t.extendedArg == some op) := by
  simp only [extNameOk, Bool.and_eq_true] at h
  unfold isExtName OpTable.opnameOf
  cases hn : t.opname[op]? with
  | some nm =>
    have := zipAll_getElem? h.1 op (Str.eqb nm extName) (by simp [hn])
    simp [List.getD, hn, ← this]
  | none =>
    -- past the end of `opname` the name is empty, and EXTENDED_ARG's number lies inside
    have hlen : t.opname.length ≤ op := by simpa using hn
    cases he : t.extendedArg with
    | none => simp [List.getD, hn, Str.eqb, extName]
    | some e =>
      have : e < t.opname.length := by simpa [he] using h.2
      have hne : e ≠ op := by omega
      simp [List.getD, hn, Str.eqb, extName, hne]

/-- what the decoders use of a table.  Whether an opcode takes an operand is a comparison with
    HAVE_ARGUMENT before 3.12 on CPython's side and before 3.13 on xdis's, so only from 3.12 is
    there anything to compare opcode by opcode (over the opcodes CPython defines) -/
def decodeOk (t : OpTable) (d : Spec.Dis.DisTbl) : Bool :=
  extNameOk t && t.extendedArg == d.extendedArg && t.extendedArg.all t.hasArg &&
  t.haveArgument == d.haveArgument && t.version == d.version &&
  (!(verGe d.version 3 11) || !(t.hasArg 0)) &&
  (!(verGe d.version 3 12) ||
    d.names.all fun p => p.2 ≥ 256 || t.hasArg p.2 == (d.hasarg.getD []).contains p.2)

def decodeTableOk (t : OpTable) : Bool :=
  match disTblFor t with
  | none => false
  | some d => decodeOk t d

theorem C02_tables : ∀ t ∈ Gen.allTables, decodeTableOk t = true := by decide +kernel

structure Agree (t : OpTable) (d : Spec.Dis.DisTbl) : Prop where
  extNum : ∀ op, isExtName t op = (t.extendedArg == some op)
  extEq : t.extendedArg = d.extendedArg
  extArg : ∀ op, isExtName t op = true → t.hasArg op = true
  haveArg : t.haveArgument = d.haveArgument
  ver : t.version = d.version
  cache : verGe d.version 3 11 = true → t.hasArg 0 = false
  hasarg : verGe d.version 3 12 = true →
    ∀ p ∈ d.names, p.2 < 256 → t.hasArg p.2 = (d.hasarg.getD []).contains p.2

theorem agree_of {t : OpTable} {d : Spec.Dis.DisTbl} (h : decodeOk t d = true) : Agree t d := by
  simp only [decodeOk, Bool.and_eq_true, Bool.or_eq_true, Bool.not_eq_true', beq_iff_eq, List.all_eq_true,
    decide_eq_true_eq] at h
  obtain ⟨⟨⟨⟨⟨⟨hn, he⟩, ha⟩, hh⟩, hv⟩, h0⟩, hl⟩ := h
  refine ⟨isExtName_eq hn, he, fun op hx => ?_, hh, hv,
    fun h11 => h0.resolve_left (by simp [h11]),
    fun h12 p hp h256 => ((hl.resolve_left (by simp [h12])) p hp).resolve_left (by omega)⟩
  rw [isExtName_eq hn, beq_iff_eq] at hx
  simpa [hx] using ha

theorem agrees {t : OpTable} (ht : t ∈ Gen.allTables) : ∃ d, disTblFor t = some d ∧ Agree t d := by
  have h := C02_tables t ht
  unfold decodeTableOk at h
  split at h
  · cases h
  · exact ⟨_, ‹_›, agree_of h⟩

theorem agree {t : OpTable} (ht : t ∈ Gen.allTables) {d : Spec.Dis.DisTbl} (hd : disTblFor t = some d) :
    Agree t d := by
  obtain ⟨d', hd', h⟩ := agrees ht
  cases hd.symm.trans hd'
  exact h

theorem Agree.extName {t : OpTable} {d : Spec.Dis.DisTbl} (h : Agree t d) (op : Nat) :
    isExtName t op = (d.extendedArg == some op) := h.extEq ▸ h.extNum op

theorem Agree.takes {t : OpTable} {d : Spec.Dis.DisTbl} (h : Agree t d) {op : Nat} (h256 : op < 256)
    (hdef : verGe d.version 3 12 = true → isDefined d op = true) : t.hasArg op = specTakes d op := by
  unfold specTakes
  cases h12 : verGe d.version 3 12
  · rw [t.hasArg_eq_ge (h.ver ▸ verGe_anti (by omega) h12), h.haveArg]; rfl
  · obtain ⟨p, hp, hop⟩ := List.any_eq_true.mp (hdef h12)
    rw [if_pos rfl, ← beq_iff_eq.mp hop]
    exact h.hasarg h12 p hp (beq_iff_eq.mp hop ▸ h256)

theorem Agree.tableOk {t : OpTable} {d : Spec.Dis.DisTbl} (h : Agree t d) : TableOk t :=
  ⟨fun op _ => h.extArg op, fun op _ => t.instrSizeOf_eq op⟩

theorem Agree.disOk {t : OpTable} {d : Spec.Dis.DisTbl} (h : Agree t d) (h11 : verGe d.version 3 11 = false) :
    DisOk t d := by
  have h12 : verGe d.version 3 12 = false := verGe_anti (by omega) h11
  refine ⟨fun op hop => ?_, fun op _ => h.extName op, by rw [py36, h.ver], h11, h12⟩
  rw [h.takes hop (by simp [h12]), specTakes, h12]; rfl

theorem Agree.disOk311 {t : OpTable} {d : Spec.Dis.DisTbl} (h : Agree t d) (h11 : verGe d.version 3 11 = true) :
    DisOk311 t d :=
  ⟨fun op hop hdef => h.takes hop (fun _ => hdef), fun op _ => h.extName op,
    by rw [py36, h.ver]; exact verGe_mono (by omega) h11, h11, h.cache h11⟩

/-- the first two conjuncts of `streamFacts` and `streamFacts311` -/
theorem tableFacts_of {t : OpTable} (ok : TableOk t) (op : Nat) (hop : op < 256) :
    ((isExtName t op = false ∨ t.hasArg op = true) ∧
      Nat.beq (t.instrSizeOf op) (if py36 t then 2 else if t.hasArg op then 3 else 1) = true) := by
  refine ⟨?_, ok.size op hop ▸ Nat.beq_refl _⟩
  cases hx : isExtName t op
  · exact Or.inl rfl
  · exact Or.inr (ok.extHasArg op hop hx)

/-- xdis and CPython agree, for every opcode number CPython defines, on (a) whether the opcode takes an
    operand and (b) whether it is EXTENDED_ARG; EXTENDED_ARG takes an operand; and the
    instruction width is the era's (1/3 bytes before 3.6, 2 from 3.6) -/
def decodeFactsOk (t : OpTable) : Bool :=
  match disTblFor t with
  | none => false
  | some d =>
    (d.names.map (·.2)).all fun op => op ≥ 256 ||
      ((t.hasArg op == specTakes d op) &&
      (isExtName t op == (d.extendedArg == some op)) &&
      (!(isExtName t op) || t.hasArg op) &&
      (t.instrSizeOf op == (if verGe t.version 3 6 then 2 else if t.hasArg op then 3 else 1)))

theorem C02_decode_facts : ∀ t ∈ Gen.allTables, decodeFactsOk t = true := by
  intro t ht
  obtain ⟨d, hd, h⟩ := agrees ht
  simp only [decodeFactsOk, hd, List.all_eq_true, List.mem_map, Bool.or_eq_true, decide_eq_true_eq,
    Bool.and_eq_true, beq_iff_eq, Bool.not_eq_true']
  rintro op ⟨p, hp, rfl⟩
  refine (Nat.lt_or_ge p.2 256).elim (fun h256 => Or.inr
    ⟨⟨⟨?_, h.extName _⟩, (tableFacts_of h.tableOk _ h256).1⟩, t.instrSizeOf_eq _⟩) Or.inl
  exact h.takes h256 fun _ => List.any_eq_true.mpr ⟨p, hp, beq_self_eq_true _⟩

/-- the arithmetic of one prefix in word code: with `EXTENDED_ARG hi ; OP lo` the decoder computes
    `lo ||| ((0 ||| hi) <<< 8)` (`0`: no prefix pending at the EXTENDED_ARG), which is `hi*256 + lo` -/
theorem C02_fold_one (hi lo : Nat) (hlo : lo < 256) : (lo ||| ((0 ||| hi) <<< 8)) = hi * 256 + lo := by
  simp only [Nat.zero_or]
  rw [Nat.or_comm, ← Nat.shiftLeft_add_eq_or_of_lt (by simpa using hlo), Nat.shiftLeft_eq]

/-- real 3.8 table: three prefixes fold big-endian, sizes and has_extended_arg as xdis reports them -/
example : (instrs Gen.opcode_38 [144, 1, 144, 2, 144, 3, 100, 4, 1, 0]).toOption =
    some [ { offset := 0, opcode := 144, arg := some 1, instSize := 2, hasExtArg := false },
          { offset := 2, opcode := 144, arg := some 258, instSize := 4, hasExtArg := true },
          { offset := 4, opcode := 144, arg := some 66051, instSize := 6, hasExtArg := true },
          { offset := 6, opcode := 100, arg := some 16909060, instSize := 8, hasExtArg := true },
          { offset := 8, opcode := 1, arg := none, instSize := 2, hasExtArg := false } ] := by
  decide +kernel

/-- and CPython's reader gives the same triples -/
example : (C02.disTblFor Gen.opcode_38).bind (fun d => Spec.Dis.unpack d [144, 1, 144, 2, 144, 3, 100, 4, 1, 0]) =
    some [(0, 144, some 1), (2, 144, some 258), (4, 144, some 66051), (6, 100, some 16909060), (8, 1, none)] := by
  decide +kernel

def streamFacts (t : OpTable) (d : Spec.Dis.DisTbl) : Bool :=
  ((List.range 256).all fun op =>
    (!(isExtName t op) || t.hasArg op) &&
    Nat.beq (t.instrSizeOf op) (if py36 t then 2 else if t.hasArg op then 3 else 1) &&
    (t.hasArg op == decide (op ≥ d.haveArgument)) &&
    (isExtName t op == (d.extendedArg == some op))) &&
  (py36 t == verGe d.version 3 6) && !(verGe d.version 3 11) && !(verGe d.version 3 12)

def streamFactsOk (t : OpTable) : Bool :=
  match disTblFor t with
  | none => false
  | some d => verGe d.version 3 11 || streamFacts t d

theorem streamFacts_of {t : OpTable} {d : Spec.Dis.DisTbl} (ok : TableOk t) (dk : DisOk t d) :
    streamFacts t d = true := by
  simp only [streamFacts, Bool.and_eq_true, List.all_eq_true, List.mem_range, Bool.not_eq_true', Bool.or_eq_true,
    beq_iff_eq]
  exact ⟨⟨⟨fun op hop => ⟨⟨tableFacts_of ok op hop, dk.takes op hop⟩, dk.ext op hop⟩, dk.era⟩, dk.lt311⟩, dk.lt312⟩

theorem C02_stream_tables_all : Gen.allTables.all streamFactsOk = true := by
  refine List.all_eq_true.mpr fun t ht => ?_
  obtain ⟨d, hd, h⟩ := agrees ht
  simp only [streamFactsOk, hd]
  cases h11 : verGe d.version 3 11
  · exact streamFacts_of h.tableOk (h.disOk h11)
  · rfl

/-- on every opcode table of a version before 3.11 that xdis ships, for every
    byte string of any length, Model.Decode.instrs = CPython's _unpack_opargs (before 3.10: provided no
    EXTENDED_ARG prefix is pending at an operand-less opcode, `CarryOk`) -/
theorem C02_stream_all (t : OpTable) (ht : t ∈ Gen.allTables) (d : Spec.Dis.DisTbl) (hd : disTblFor t = some d)
    (h11 : verGe d.version 3 11 = false) (code : Bytes) (hbytes : IsBytes code)
    (hc : (verGe d.version 3 10 = true ∧ py36 t = true) ∨ CarryOk t code) :
    (instrs t code).toOption.map (List.map tri) = Spec.Dis.unpack d code :=
  C02_stream t d code (agree ht hd).tableOk ((agree ht hd).disOk h11) hbytes hc

/-- non-vacuity: the hypotheses hold for a real 3.8 code string with a three-prefix operand -/
example : IsBytes [144, 1, 144, 2, 144, 3, 100, 4, 1, 0] ∧ CarryOk Gen.opcode_38 [144, 1, 144, 2, 144, 3, 100, 4, 1, 0] := by
  constructor
  · intro b hb; simp at hb; omega
  · unfold CarryOk; decide +kernel

/-- and the carry condition is what it says: 3.8 `EXTENDED_ARG 1; POP_TOP; LOAD_CONST 0` is excluded
    (CPython 3.8 reports LOAD_CONST 256 there, xdis 0) -/
example : carryOk Gen.opcode_38 [144, 1, 1, 0, 100, 0] 7 0 0 = false := by decide +kernel
example : ((instrs Gen.opcode_38 [144, 1, 1, 0, 100, 0]).toOption.map (List.map tri)) =
    some [(0, 144, some 1), (2, 1, none), (4, 100, some 0)] ∧
    (disTblFor Gen.opcode_38).bind (fun d => Spec.Dis.unpack d [144, 1, 1, 0, 100, 0]) =
    some [(0, 144, some 1), (2, 1, none), (4, 100, some 256)] := by decide +kernel

def streamFacts311 (t : OpTable) (d : Spec.Dis.DisTbl) : Bool :=
  ((List.range 256).all fun op =>
    (!(isExtName t op) || t.hasArg op) &&
    Nat.beq (t.instrSizeOf op) (if py36 t then 2 else if t.hasArg op then 3 else 1) &&
    (!(isDefined d op) ||
      (t.hasArg op == (if verGe d.version 3 12 then (d.hasarg.getD []).contains op else decide (op ≥ d.haveArgument)))) &&
    (isExtName t op == (d.extendedArg == some op))) &&
  py36 t && verGe d.version 3 11 && !(t.hasArg 0)

def streamFacts311Ok (t : OpTable) : Bool :=
  match disTblFor t with
  | none => false
  | some d => !(verGe d.version 3 11) || streamFacts311 t d

theorem streamFacts311_of {t : OpTable} {d : Spec.Dis.DisTbl} (ok : TableOk t) (dk : DisOk311 t d) :
    streamFacts311 t d = true := by
  simp only [streamFacts311, Bool.and_eq_true, List.all_eq_true, List.mem_range, Bool.not_eq_true',
    Bool.or_eq_true, beq_iff_eq]
  refine ⟨⟨⟨fun op hop => ⟨⟨tableFacts_of ok op hop, ?_⟩, dk.ext op hop⟩, dk.era⟩, dk.ge311⟩, dk.cacheNoArg⟩
  cases hdef : isDefined d op
  · exact Or.inl rfl
  · exact Or.inr (dk.takes op hop hdef)

theorem C02_stream_tables_311_all : Gen.allTables.all streamFacts311Ok = true := by
  refine List.all_eq_true.mpr fun t ht => ?_
  obtain ⟨d, hd, h⟩ := agrees ht
  simp only [streamFacts311Ok, hd]
  cases h11 : verGe d.version 3 11
  · rfl
  · exact streamFacts311_of h.tableOk (h.disOk311 h11)

/-- on the 3.11, 3.12 and 3.13 tables xdis ships, for every byte string of any
    length laid out with its inline cache slots (`CacheOk`), the non-CACHE part of
    Model.Decode.instrs is CPython's _unpack_opargs -/
theorem C02_stream_311_all (t : OpTable) (ht : t ∈ Gen.allTables) (d : Spec.Dis.DisTbl) (hd : disTblFor t = some d)
    (h11 : verGe d.version 3 11 = true) (code : Bytes) (hbytes : IsBytes code) (hc : CacheOk t d code) :
    ((instrs t code).toOption.map (List.map tri)).map (List.filter nc) = Spec.Dis.unpack d code :=
  C02_stream_311 t d code (agree ht hd).tableOk ((agree ht hd).disOk311 h11) hbytes hc

/-- non-vacuity: `def f(a, g): return a.b + g(a)` as CPython 3.12.1 and 3.11.7 compile it (LOAD_ATTR
    with 9 / 4 cache slots, CALL, BINARY_OP) meets the layout hypothesis -/
def code312 : Bytes := [151, 0, 124, 0, 106, 0, 0, 0, 0, 0, 0, 0, 0, 0, 0, 0, 0, 0, 0, 0, 0, 0, 0, 0, 2, 0, 124, 1, 124, 0,
  171, 1, 0, 0, 0, 0, 0, 0, 122, 0, 0, 0, 83, 0]
def code311 : Bytes := [151, 0, 124, 0, 106, 0, 0, 0, 0, 0, 0, 0, 0, 0, 2, 0, 124, 1, 124, 0, 166, 1, 0, 0, 171, 1, 0, 0,
  0, 0, 0, 0, 0, 0, 122, 0, 0, 0, 83, 0]
example : (match disTblFor Gen.opcode_312 with | some d => cacheOk Gen.opcode_312 d code312 45 0 0 0 | none => false) = true ∧
    (match disTblFor Gen.opcode_311 with | some d => cacheOk Gen.opcode_311 d code311 41 0 0 0 | none => false) = true := by
  decide +kernel

/-- and a code unit that should be a cache slot but is not CACHE is excluded: CPython skips it, xdis lists it -/
example : (match disTblFor Gen.opcode_312 with
    | some d => cacheOk Gen.opcode_312 d [106, 0, 1, 0, 0, 0, 0, 0, 0, 0, 0, 0, 0, 0, 0, 0, 0, 0, 0, 0] 21 0 0 0
    | none => true) = false := by decide +kernel

end XV.Props.C02
