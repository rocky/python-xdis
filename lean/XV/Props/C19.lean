/-
C19 — freeze() encodes a line table that decodes back to the same mapping.
`encode` = XV.Model.LineEnc (transcription of encode_lineno_tab of Code15/Code2, Code3, Code38,
Code310); `decode` = the CPython line-start readers of XV.Spec.Lines (to which xdis's own
reader is proved equal in C05).

The three round trips (C19/Round, Round36, Round310) go the same way.  Each splitting loop of an
encoder gets one lemma `…_reads` over the readers of XV.Lemmas.LineTables: its chunks, followed by
whatever reads as the entry left over, read as the undivided entry.  Chained, they say that what is
written for one mapping entry reads as the single pair (offset gap, line gap), and the reader's step
on that pair is the mapping's line start.
-/
import XV.Model.LineEnc
import XV.Spec.Lines
import XV.Lemmas.LineTables
namespace XV.Props.C19
open XV XV.Model.LineEnc XV.Spec.Lines XV.LineTables

def emit (last : Option Int) (line : Int) (addr : Nat) : List (Nat × Int) :=
  if last ≠ some line then [(addr, line)] else []

theorem startsGo_pos {b : Nat} (hb : b ≠ 0) (last : Option Int) (line : Int) (addr : Nat) (l : Int)
    (Y : List (Nat × Int)) :
    startsGo (last, line, addr) ((b, l) :: Y) = emit last line addr ++ startsGo (some line, line + l, addr + b) Y := by
  simp [startsGo, emit, hb]

theorem splitBig_reads (δ : Nat → Int) (hδ : δ 0 = 0) {fuel d : Nat} {c : Bytes} {r : Nat}
    (h : splitBig [255, 0] fuel d = (c, r)) :
    ∀ u l Y, Same startsGo (pairsBy δ u) ((r, l) :: Y) → Same startsGo (pairsBy δ (c ++ u)) ((d, l) :: Y) := by
  fun_induction splitBig [255, 0] fuel d generalizing c r with
  | case1 d => cases h; exact fun _ _ _ h => h
  | case2 fuel d hd bs r' heq ih =>
    cases h
    intro u l Y hu
    have := ((ih heq u l Y hu).consStarts (255, 0)).trans (merge_addr _ _ _ _)
    rw [show 255 + (d - 255) = d by omega] at this
    simpa [pairsBy_cons, hδ] using this
  | case3 fuel d hd => cases h; exact fun _ _ _ h => h

/-- regression witness (xdis fix "lnotab encoders: continuation chunks in the wrong order"): a `(0,255)`
    continuation placed BEFORE the address increment moves the previous line -/
example : starts27 1 [0, 0, 0, 255, 2, 2] = [(0, 256), (2, 258)] ∧
          starts27 1 [0, 0, 2, 255, 0, 2] = [(0, 1), (2, 258)] := by decide

/-- the signed formats cannot carry what the 2.x/3.0-3.5 encoder emits (recorded finding,
    `code3-line-delta-ge128-in-signed-format`): the Model's table for {0:10, 510:1010}
    decodes, under 3.6+ rules, to a negative line -/
example : (encode3 10 [(0, 10), (510, 1010)]).toOption.map (starts36 10) =
    some [(0, 10), (510, -14)] := by decide +kernel

end XV.Props.C19
