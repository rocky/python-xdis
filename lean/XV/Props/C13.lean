/-
C13 — A bytecode file read and written back is the same program for its Python.
Header part: what write_bytecode_file emits is read back, by the header reader of C06
(and hence by the format of the version), to the timestamp and size that were written.
The code-object part (`C13/Round.lean`) composes the unmarshaller (C01/C10) with the writer Model (C14).
-/
import XV.Props.C06
import XV.Model.Marsh
namespace XV.Props.C13
open XV XV.Model XV.Model.Header XV.Spec.PycHeader

/-- Model of the header bytes written by `write_bytecode_file(path, code, magic_int, ts, filesize)`
    for a version of the given form: magic, CR LF, (3.7+) a zero flag word, timestamp, (3.3+) size -/
def writeHeader (f : Form) (magic ts size : Nat) : Bytes :=
  toLE 2 magic ++ [13, 10] ++
  (match f with
   | .pep552 => toLE 4 0 ++ toLE 4 ts ++ toLE 4 size
   | .tsSize => toLE 4 ts ++ toLE 4 size
   | .tsOnly => toLE 4 ts)

def kindFor : Form → Kind
  | .pep552 => .pep552 false | .tsSize => .tsSize | .tsOnly => .tsOnly

/-- the written header parses back (by the reader proved in C06) to the timestamp and the
    size that were written, with the payload starting right after it — for every 32-bit
    timestamp/size, every magic and every payload -/
theorem C13_header (f : Form) (magic ts size : Nat) (hts : ts < 2 ^ 32) (hsz : size < 2 ^ 32) (payload : Bytes) :
    parseFields (kindFor f) ((writeHeader f magic ts size ++ payload).drop 4) =
      some (match f with
            | .pep552 => (some ts, some size, none, 16)
            | .tsSize => (some ts, some size, none, 12)
            | .tsOnly => (some ts, none, none, 8)) := by
  -- all widths are numerals, so dropping the four magic bytes computes: what is left is C06's `encode _ ++ payload`
  cases f with
  | pep552 => exact C06.C06_fields (.pepTs 0 ts size) ⟨by decide, by decide, hts, hsz⟩ payload (.pep552 false) rfl
  | tsSize => exact C06.C06_fields (.tsSize ts size) ⟨hts, hsz⟩ payload .tsSize rfl
  | tsOnly => exact C06.C06_fields (.tsOnly ts) hts payload .tsOnly rfl

theorem kindFor_beq (k : Kind) (f : Form) : (kindFor f == k) = C06.kindMatches k f := by
  cases f <;> cases k <;> first | rfl | (rename_i b; cases b <;> rfl)

/-- the writer's header form is the version's (same gates as the Spec's `formOf`): `C06_kind` on the released
    magics, `kindFor f == k` being `kindMatches k f` -/
theorem C13_form : ∀ m ∈ C01.releasedMagics,
    (match Header.tupleOf C06.tables m with
     | some v => kindFor (formOf v) == Header.kindOf C06.tables m v
     | none => false) = true := by
  intro m hm
  have h := C06.C06_kind m (List.mem_append_left _ hm)
  unfold C06.kindOk at h
  split at h
  · next v hv => simp only [hv]; rw [kindFor_beq]; exact h
  · cases h

end XV.Props.C13
