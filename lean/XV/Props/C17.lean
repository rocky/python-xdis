/-
C17 — 3.11+ exception and position tables decode as CPython decodes them.
The format is given by the Spec ENCODERS (XV.Spec.Lines: encVarint, encSVarint,
encVarintBE, encodeExc, encodeLoc); the theorems say xdis's decoders (XV.Model.Lines)
invert them for every value / entry list — every varint length, every magnitude.
-/
import XV.Model.Lines
import XV.Spec.Lines
import XV.Lemmas.Bits
import XV.Lemmas.List
namespace XV.Props.C17
open XV XV.Model.Lines XV.Spec.Lines XV.Bits

theorem scan_enc (n : Nat) (tail : Bytes) (shift acc : Nat) :
    scanVarint (encVarint n ++ tail) shift acc = (acc ||| n <<< (shift * 6), tail) := by
  induction n using Nat.strongRecOn generalizing shift acc with
  | _ n ih =>
    rw [encVarint]
    by_cases h : n < 64
    · simp only [h, dite_true, List.cons_append, List.nil_append, scanVarint, and_63, and_64]
      rw [if_pos (by omega), Nat.mod_eq_of_lt h]
    · simp only [h, dite_false, List.cons_append, scanVarint, and_63, and_64]
      rw [if_neg (by omega), ih (n / 64) (by omega), Nat.or_assoc, Nat.add_mod_left, Nat.mod_mod,
        show (shift + 1) * 6 = 6 + shift * 6 by omega, Nat.shiftLeft_add, ← Nat.shiftLeft_or_distrib,
        (mod_or_div_shiftLeft n 6 : n % 64 ||| (n / 64) <<< 6 = n)]

/-- every unsigned varint of any length decodes to its value, consuming exactly its bytes -/
theorem C17_varint_le (n : Nat) (tail : Bytes) : scanVarint (encVarint n ++ tail) 0 0 = (n, tail) := by
  simpa using scan_enc n tail 0 0

/-- every signed varint (zig-zag, sign in bit 0), incl. negative line deltas -/
theorem C17_svarint (i : Int) (tail : Bytes) : scanSignedVarint (encSVarint i ++ tail) = (i, tail) := by
  unfold scanSignedVarint encSVarint
  by_cases h : i < 0
  · rw [if_pos h, C17_varint_le, ← Nat.shiftLeft_add_eq_or_of_lt (by decide : 1 < 2 ^ 1)]
    simp only [Nat.shiftLeft_eq, Nat.and_one_is_mod, Nat.shiftRight_eq_div_pow, Nat.pow_one]
    rw [if_pos (by omega)]; congr 1; omega
  · rw [if_neg h, C17_varint_le]
    simp only [Nat.shiftLeft_eq, Nat.and_one_is_mod, Nat.shiftRight_eq_div_pow, Nat.pow_one]
    rw [if_neg (by omega)]; congr 1; omega

def digitsVal (val : Nat) (ds : List Nat) : Nat := ds.foldl (fun v d => v * 64 + d) val

theorem markCont_cons (d : Nat) (ds : List Nat) :
    markCont (d :: ds) = ((if ds = [] then 0 else 64) + d) :: markCont ds := by
  cases ds <;> simp [markCont]

/-- after the byte `b` the parser goes on exactly while digits are left -/
theorem parseGo_digits (ds : List Nat) (hds : ∀ d ∈ ds, d < 64) (val b : Nat) (tail : Bytes)
    (hb : (b &&& 64 = 0) ↔ ds = []) :
    parseVarintGo val b (markCont ds ++ tail) = some (digitsVal val ds, tail) := by
  induction ds generalizing val b with
  | nil => have := hb.mpr rfl; cases tail <;> simp [markCont, parseVarintGo, this, digitsVal]
  | cons d ds ih =>
    have hd : d < 64 := hds d (by simp)
    have hbyte : ((if ds = [] then 0 else 64) + d) % 64 = d ∧
        (((if ds = [] then 0 else 64) + d) / 64 % 2 * 64 = 0 ↔ ds = []) := by split <;> simp [*] <;> omega
    rw [markCont_cons, List.cons_append, parseVarintGo, if_neg (fun h => List.cons_ne_nil _ _ (hb.mp h)),
      and_63, hbyte.1, ← Nat.shiftLeft_add_eq_or_of_lt (by simpa using hd), Nat.shiftLeft_eq,
      ih (fun x hx => hds x (by simp [hx])) _ _ (by rw [and_64]; exact hbyte.2)]
    rfl

theorem beDigits_spec (n : Nat) : ∃ d ds, beDigits n = d :: ds ∧ digitsVal d ds = n ∧ ∀ x ∈ d :: ds, x < 64 := by
  induction n using Nat.strongRecOn with
  | _ n ih =>
    rw [beDigits]
    by_cases h : n < 64
    · exact ⟨n, [], by simp [h], rfl, by simpa using h⟩
    · obtain ⟨d, ds, he, hv, hlt⟩ := ih (n / 64) (by omega)
      refine ⟨d, ds ++ [n % 64], by simp [h, he], ?_, ?_⟩
      · unfold digitsVal at hv ⊢; rw [List.foldl_append, hv]; simp; omega
      · intro x hx
        rw [← List.cons_append, List.mem_append, List.mem_singleton] at hx
        rcases hx with hx | rfl
        · exact hlt x hx
        · omega

/-- a big-endian varint of any length decodes to its value, with or without the
    entry-start marker (bit 7) on its first byte -/
theorem C17_varint_be (n : Nat) (mark : Bool) (tail : Bytes) :
    parseVarintBE ((if mark then markFirst (encVarintBE n) else encVarintBE n) ++ tail) = some (n, tail) := by
  obtain ⟨d, ds, he, hv, hlt⟩ := beDigits_spec n
  have hd : d < 64 := hlt d (by simp)
  -- the first byte: the digit `d`, bit 6 iff more digits follow, bit 7 (`m`) iff marked
  have key : ∀ m, m = 0 ∨ m = 128 →
      parseVarintBE ((m + ((if ds = [] then 0 else 64) + d)) :: markCont ds ++ tail) = some (n, tail) := by
    intro m hm
    rw [List.cons_append, parseVarintBE, and_63, parseGo_digits ds (fun x hx => hlt x (by simp [hx])) _ _ _ ?_, ← hv]
    · congr; split <;> omega
    · rw [and_64]; split <;> simp [*] <;> omega
  rw [encVarintBE, he, markCont_cons]
  cases mark
  · simpa using key 0 (.inl rfl)
  · simpa [markFirst] using key 128 (.inr rfl)

/-- what CPython reports for an encoded entry (offsets in bytes) -/
def meaning (e : Spec.Lines.ExcEntry) : Model.Lines.ExcEntry :=
  { start := e.start * 2, stop := e.start * 2 + e.length * 2, target := e.target * 2, depth := e.depth, lasti := e.lasti }

theorem parse_one (e : Spec.Lines.ExcEntry) (fuel : Nat) (tail : Bytes) :
    parseExcTable (fuel + 1) (encodeExcEntry e ++ tail) = meaning e :: parseExcTable fuel tail := by
  have h1 := C17_varint_be e.start true
  have h2 := fun n => C17_varint_be n false
  simp only [if_true, Bool.false_eq_true, if_false] at h1 h2
  simp only [encodeExcEntry, parseExcTable, List.append_assoc, h1, h2, meaning]
  congr 2
  · cases e.lasti <;> simp [Nat.shiftRight_eq_div_pow] <;> omega
  · cases e.lasti <;> simp [Nat.and_one_is_mod] <;> omega

theorem parse_all (es : List Spec.Lines.ExcEntry) (fuel : Nat) (h : es.length < fuel) :
    parseExcTable fuel (encodeExc es) = es.map meaning := by
  induction es generalizing fuel with
  | nil => cases fuel <;> rfl
  | cons e es ih =>
    obtain ⟨f, rfl⟩ : ∃ f, fuel = f + 1 := ⟨fuel - 1, by omega⟩
    rw [encodeExc, List.flatMap_cons, parse_one, ← encodeExc, ih f (by simpa using h)]; rfl

theorem encodeExcEntry_length (e : Spec.Lines.ExcEntry) : 1 ≤ (encodeExcEntry e).length := by
  obtain ⟨d, ds, he, _⟩ := beDigits_spec e.start
  simp [encodeExcEntry, encVarintBE, he, markCont_cons, markFirst]

/-- parse_exception_table inverts the exception-table encoding: for EVERY entry list
    (any start/length/target/depth magnitude, any varint length) the parsed entries are
    exactly CPython's (start, end, target, depth, lasti) -/
theorem C17_exc (es : List Spec.Lines.ExcEntry) : excTable (encodeExc es) = es.map meaning :=
  parse_all es _ (Nat.lt_succ_of_le (length_le_flatMap _ encodeExcEntry_length es))

/-- non-vacuity / sanity: a three-byte varint entry -/
example : excTable (encodeExc [{ start := 5000, length := 70, target := 300000, depth := 3, lasti := true }])
    = [{ start := 10000, stop := 10140, target := 600000, depth := 3, lasti := true }] := by
  rw [C17_exc]; rfl

end XV.Props.C17
