/-
C13 — read → write → read, as theorems.

`C13_write_read`: for every code object in the 3.4–3.10 marshal layout whose fields are plain
values (nested code objects included, to any depth marshal.c accepts), the bytes
`xdis.marsh.dumps` writes (`dump_code3` and the plain-value writers, transcribed in
`XV.Model.Marsh`) are read back by marshal.c's reader for that version to the same code object,
with nothing left over.

`C13_roundtrip`: composed with the unmarshaller theorem (`C01_main`): if the producing Python's
marshal loads a payload to `pv`, then xdis's `load_code` returns `pv`, and what xdis's writer
emits for it is loaded by that Python to `pv` again.  Floats travel as `repr` text (the writer's
format); `float(repr(x)) = x` is CPython's guarantee and is not part of the theorem: both sides of
the final equation carry the float as its repr text (`textify`).
-/
import XV.Props.C14.Dumps
import XV.Props.C01.Main
namespace XV.Props.C13.Round
open XV XV.Model.Marsh XV.Model.Unmarshal XV.Spec.Marshal XV.Props.C14.Dumps XV.Props.C10.Sim

mutual
/-- binary floats as the writer emits them: their repr text (`reprF` is Python's `repr`, opaque) -/
def textify (reprF : Nat → Bytes) : V → V
  | .float b => .floatText (reprF b)
  | .complex re im => .complexText (reprF re) (reprF im)
  | .tuple xs => .tuple (textifyL reprF xs)
  | .list xs => .list (textifyL reprF xs)
  | .set xs => .set (textifyL reprF xs)
  | .fset xs => .fset (textifyL reprF xs)
  | .dict kvs => .dict (textifyKV reprF kvs)
  | .code fs => .code (textifyF reprF fs)
  | v => v
def textifyL (reprF : Nat → Bytes) : List V → List V
  | [] => []
  | x :: xs => textify reprF x :: textifyL reprF xs
def textifyKV (reprF : Nat → Bytes) : List (V × V) → List (V × V)
  | [] => []
  | (k, v) :: r => (textify reprF k, textify reprF v) :: textifyKV reprF r
def textifyF (reprF : Nat → Bytes) : List (String × V) → List (String × V)
  | [] => []
  | (n, v) :: r => (n, textify reprF v) :: textifyF reprF r
end

/-- C13_write_read — `C14_dumps` under the name the C13 documents use: what `xdis.marsh.dumps` writes for a
    plain value, code objects of the 3.4–3.10 layout included, is what that Python's marshal reads back: the
    same object, nothing left over -/
theorem C13_write_read (ver : List Nat) (hera : era ver = 4) (c : V) (hp : Plain ver c = true) (hd : depthOf c ≤ 1999) :
    Spec.Marshal.loads ver (dump c) = .ok (norm c, []) :=
  C14_dumps ver hera c hp hd

/-- C13_roundtrip — load with xdis, write with xdis.marsh, load with the producing Python: the same
    code object -/
theorem C13_roundtrip (reprF : Nat → Bytes) (magic : Nat) (ver : List Nat) (limit : Nat) (data : Bytes) (pv : V)
    (hera : era ver = 4) (hbytes : AllBytes data) (hlimit : 2000 ≤ limit)
    (hm : magic ≠ 3400 ∧ magic ≠ 3401 ∧ magic ≠ 3410 ∧ magic ≠ 3411)
    (hcode : ∃ b tl, data = b :: tl ∧ b &&& 127 = 99)
    (hload : loadsStrict ver data = .ok (pv, []))
    (hplain : Plain ver (textify reprF pv) = true) (hdepth : depthOf (textify reprF pv) ≤ 1999) :
    ∃ w, loadCode magic ver false limit data = .ok (w, []) ∧ w = pv ∧
      Spec.Marshal.loads ver (dump (textify reprF w)) = .ok (norm (textify reprF pv), []) := by
  have h3 : verGeL ver 3 0 = true := verGeL_mono ver 3 4 3 0 (by omega) ((era_eq4 ver).1 hera)
  have hmain := XV.Props.C01.Main.C01_main magic ver limit data pv [] hbytes hlimit hm hcode hload
  refine ⟨pv, ?_, rfl, C13_write_read ver hera _ hplain hdepth⟩
  rw [hmain]
  simp [portV, h3]

/-- non-vacuity of C13_roundtrip's hypotheses: the 3.8 sample payload of C01_main (a real `marshal.dumps(compile(...))`)
    is loaded by the strict Spec, with nothing left over, to a code object that is plain (after textify) and shallow -/
example : (loadsStrict [3, 8] XV.Props.C01.Main.sample38).toOption.map
      (fun r => Plain [3, 8] (textify (fun _ => [48]) r.1) && decide (depthOf (textify (fun _ => [48]) r.1) ≤ 1999) &&
        decide (r.2 = [])) = some true ∧ era [3, 8] = 4 := by
  decide +kernel

end XV.Props.C13.Round
