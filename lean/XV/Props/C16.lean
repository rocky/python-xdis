/-
C16 — Native and portable code objects convert back and forth without loss.
-/
import XV.Model.CodeConv
namespace XV.Props.C16
open XV.Model.CodeConv

/-- C16_class: the portable type chosen is the one for the host's version -/
theorem C16_class (e : Era) (c : Native) (p : Portable) (h : toPortable e c = some p) : p.cls = clsFor e := by
  obtain ⟨t, _, rfl⟩ := Option.map_eq_some_iff.1 h
  rfl

/-- C16_roundtrip: on every host era, for EVERY native code object of that host (whose
    derived lnotab view is the host's own derivation of its line table), converting to the
    portable type and back yields a code object equal in every field -/
theorem C16_roundtrip (e : Era) (derive : Nat → Nat) (c : Native) (hwf : c.WF e)
    (hder : ∀ t, c.linetable = some t → c.lnotab = some (derive t)) :
    (toPortable e c).bind (toNative e derive) = some c := by
  -- a well-formed object of the era has its optional fields as `codeType` builds them; the rest computes
  obtain ⟨ac, po, kw, nl, ss, fl, co, cs, ns, vs, fv, cv, fn, nm, ln, lnotab, linetable, qn, et⟩ := c
  cases e with
  | e38 =>
    obtain ⟨h1, rfl, rfl, rfl⟩ := hwf
    obtain ⟨t, rfl⟩ := Option.isSome_iff_exists.1 h1
    rfl
  | e310 =>
    obtain ⟨_, h2, rfl, rfl⟩ := hwf
    obtain ⟨t, rfl⟩ := Option.isSome_iff_exists.1 h2
    cases hder t rfl
    rfl
  | e311 =>
    obtain ⟨_, h2, h3, h4⟩ := hwf
    obtain ⟨t, rfl⟩ := Option.isSome_iff_exists.1 h2
    obtain ⟨q, rfl⟩ := Option.isSome_iff_exists.1 h3
    obtain ⟨x, rfl⟩ := Option.isSome_iff_exists.1 h4
    cases hder t rfl
    rfl

/-- regression witness (fix "codeType2Portable preferred co_lnotab on 3.10+ hosts"): on a 3.10 host whose derived
    lnotab differs from its line table the portable object takes the line table; preferring `co_lnotab` whenever
    present makes the round trip change the line table -/
example : let c : Native := { argcount := 0, posonly := 0, kwonly := 0, nlocals := 0, stacksize := 1, flags := 64, code := 1,
                              consts := 2, names := 3, varnames := 4, freevars := 5, cellvars := 6, filename := 7, name := 8,
                              firstlineno := 1, lnotab := some 100, linetable := some 200, qualname := none, exctable := none }
          c.WF .e310 ∧ (toPortable .e310 c).map (·.linetab) = some 200 := by
  constructor
  · simp [Native.WF]
  · rfl

/-- C16_replace: a record update at one field changes that field and leaves the two others shown alone (Lean's
    structure update stands for `replace()` = deepcopy + setattr; values are immutable here, aliasing of the
    real objects is checked dynamically) -/
theorem C16_replace (p : Portable) (v : Nat) :
    ({ p with name := v } : Portable).name = v ∧ ({ p with name := v } : Portable).code = p.code ∧
    ({ p with name := v } : Portable).linetab = p.linetab := by simp

end XV.Props.C16
