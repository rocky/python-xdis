/-
C18 — Each call's result is independent of what the process did before.

* C18_writes — the scan of /repo/xdis regenerated on every run (harness/writes.py: mutable
  default arguments, mutable class attributes, function bodies that rebind or mutate a
  module-level name or a local alias of one, setattr on foreign objects) finds nothing
  outside the reviewed list ref/write_sites.txt, whose entries are import-time table
  construction, write-only stores, the Dropbox decryptor, and `remap_opcodes` (the
  property's documented exception).
* C18_history — for any system whose operations restore the state they found on the
  operations of a set `ok` (the frame condition the scan and the run-time digest of every
  module-level container establish for the package, `ok` = everything but remapping), the
  result of a probe after ANY finite history of `ok` operations is its result in a fresh
  process; C18_repeat, C18_tables_unchanged are the other two clauses.
* C18_exception_needed — the frame condition cannot be dropped: a system with one
  table-patching operation (remap) does change later results.
-/
import XV.Model.History
import XV.Gen.Effects
namespace XV.Props.C18
open XV XV.Model.History

def rowBeq : List Str → List Str → Bool
  | [], [] => true
  | a :: as, b :: bs => a == b && rowBeq as bs
  | _, _ => false

-- the second conjunct guards against a scan that finds nothing
theorem C18_writes : (Gen.writeSites.all fun s => Gen.writeAllow.any (rowBeq s)) = true ∧
    Gen.writeSites.length > 10 := by decide +kernel

variable {T A R : Type}

def Frame (s : Sys T A R) (ok : A → Prop) : Prop := ∀ t a, ok a → (s.sem t a).1 = t

theorem run_eq (s : Sys T A R) (ok : A → Prop) (hf : Frame s ok) (t : T) (hist : List A)
    (hh : ∀ a ∈ hist, ok a) : s.run t hist = (t, hist.map (s.fresh t)) := by
  induction hist with
  | nil => rfl
  | cons a as ih =>
    simp only [Sys.run]
    rw [hf t a (hh a (by simp)), ih (fun b hb => hh b (by simp [hb]))]
    rfl

/-- C18_tables_unchanged: no history of `ok` operations alters the tables later calls read -/
theorem C18_tables_unchanged (s : Sys T A R) (ok : A → Prop) (hf : Frame s ok) (t : T) (hist : List A)
    (hh : ∀ a ∈ hist, ok a) : (s.run t hist).1 = t := by rw [run_eq s ok hf t hist hh]

/-- C18_history: a probe after any finite history gives what it gives in a fresh process -/
theorem C18_history (s : Sys T A R) (ok : A → Prop) (hf : Frame s ok) (t : T) (hist : List A)
    (hh : ∀ a ∈ hist, ok a) (probe : A) : s.after t hist probe = s.fresh t probe := by
  rw [Sys.after, C18_tables_unchanged s ok hf t hist hh, Sys.fresh]

theorem C18_repeat (s : Sys T A R) (ok : A → Prop) (hf : Frame s ok) (t : T) (a : A) (ha : ok a) :
    s.after t [a] a = s.fresh t a := C18_history s ok hf t [a] (by simpa using ha) a

/-- the form the differential check uses: each operation of a long random sequence is a probe after its prefix -/
theorem C18_each (s : Sys T A R) (ok : A → Prop) (hf : Frame s ok) (t : T) (hist : List A)
    (hh : ∀ a ∈ hist, ok a) : (s.run t hist).2 = hist.map (s.fresh t) := by rw [run_eq s ok hf t hist hh]

/-- a toy package (non-vacuity of `Frame`, and why remapping is excepted): the table is a number, `get` reads it,
    `remap n` patches it -/
inductive Op | get | remap (n : Nat)

def toy : Sys Nat Op Nat where
  sem := fun t a => match a with
    | .get => (t, t)
    | .remap n => (n, n)

def toyOk : Op → Prop
  | .get => True
  | .remap _ => False

example : Frame toy toyOk := by
  intro t a h
  cases a with
  | get => rfl
  | remap n => exact absurd h (by simp [toyOk])

/-- C18_exception_needed: with the patching operation in the history the conclusion fails -/
theorem C18_exception_needed : toy.after 7 [.remap 9] .get ≠ toy.fresh 7 .get := by decide

end XV.Props.C18
