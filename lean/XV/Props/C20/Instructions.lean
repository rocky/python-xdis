/-
C20 / C12 — the instruction records, end to end: xdis's `get_instructions_bytes` assembles each record from
the decoded stream (C02), the label list of `opc.findlabels` plus the exception-table targets (C04) and the
line-start map (C05).  CPython's `dis._get_instructions_bytes` assembles the same record from
`_unpack_opargs`, `findlabels` and `findlinestarts`.  Composing the component theorems: for every code string
the two lists of records (offset, opcode, arg, is_jump_target, starts_line) are equal — before 3.11 literally,
from 3.11 after dropping the CACHE entries `dis` hides.
-/
import XV.Props.C02
import XV.Props.C04
namespace XV.Props.C20.Instructions
open XV XV.Model XV.Model.Decode XV.Spec.Dis XV.Props.C02

structure IRec where
  offset : Nat
  opcode : Nat
  arg : Option Nat
  isJumpTarget : Bool
  startsLine : Option Int
  deriving DecidableEq, Repr

/-- one record per decoded instruction: `is_jump_target = offset in labels`, `starts_line = linestarts.get(offset)` -/
def assemble (stream : List Spec.Dis.Triple) (labels : List Int) (starts : List (Nat × Int)) : List IRec :=
  stream.map fun x =>
    { offset := x.1, opcode := x.2.1, arg := x.2.2, isJumpTarget := labels.contains (x.1 : Int), startsLine := starts.lookup x.1 }

/-- xdis: `get_instructions_bytes` (labels = opc.findlabels(code, opc) extended by the exception-table targets) -/
def xdisInstructions (t : OpTable) (code : Bytes) (starts : List (Nat × Int)) (excTargets : List Int) : Option (List IRec) := do
  let s ← (instrs t code).toOption
  let l ← (Decode.findlabels t Gen.cacheSize313 code).bind Except.toOption
  pure (assemble (s.map tri) (l ++ excTargets) starts)

/-- CPython: `dis._get_instructions_bytes` (labels = findlabels(code) plus the exception-table targets) -/
def disInstructions (d : DisTbl) (code : Bytes) (starts : List (Nat × Int)) (excTargets : List Int) : Option (List IRec) := do
  let s ← Spec.Dis.unpack d code
  let l ← Spec.Dis.findlabels d code
  pure (assemble s (l ++ excTargets) starts)

theorem assemble_filter (stream : List Spec.Dis.Triple) (labels : List Int) (starts : List (Nat × Int)) (p : Spec.Dis.Triple → Bool) :
    assemble (stream.filter p) labels starts =
    (assemble stream labels starts).filter (fun r => p (r.offset, r.opcode, r.arg)) := by
  unfold assemble
  rw [List.filter_map]
  rfl

/-- the streams agree up to `f` (identity, or dropping CACHE), which `assemble` turns into `g` -/
theorem instructions_of (t : OpTable) (d : DisTbl) (code : Bytes) (starts : List (Nat × Int)) (excTargets : List Int)
    (f : List Spec.Dis.Triple → List Spec.Dis.Triple) (g : List IRec → List IRec)
    (hfg : ∀ s labels, assemble (f s) labels starts = g (assemble s labels starts))
    (hs : ((instrs t code).toOption.map (List.map tri)).map f = Spec.Dis.unpack d code)
    (hl : (Decode.findlabels t Gen.cacheSize313 code).map Except.toOption = some (Spec.Dis.findlabels d code)) :
    (xdisInstructions t code starts excTargets).map g = disInstructions d code starts excTargets := by
  unfold xdisInstructions disInstructions
  rw [← hs]
  cases (instrs t code).toOption with
  | none => rfl
  | some s =>
    cases hf : Decode.findlabels t Gen.cacheSize313 code with
    | none => rw [hf] at hl; cases hl
    | some r =>
      rw [hf] at hl
      simp only [← Option.some.inj hl, bind, pure, Option.bind_some, Option.map_some]
      cases r.toOption with
      | none => rfl
      | some l => simp only [Option.bind_some, Option.map_some, hfg]

/-- every version before 3.11 that xdis ships, every code string: the records are equal -/
theorem C20_instructions (t : OpTable) (ht : t ∈ Gen.allTables) (d : DisTbl) (hd : disTblFor t = some d)
    (h11 : verGe d.version 3 11 = false) (code : Bytes) (hbytes : IsBytes code) (hc : CarryOk t code)
    (starts : List (Nat × Int)) (excTargets : List Int) :
    xdisInstructions t code starts excTargets = disInstructions d code starts excTargets := by
  have hs := C02_stream_all t ht d hd h11 code hbytes (Or.inr hc)
  have hl := C04.C04_labels t ht d hd h11 code hbytes (fun _ => hc)
  simpa using instructions_of t d code starts excTargets id id (fun _ _ => rfl) (by simpa using hs) hl

/-- 3.11, 3.12, 3.13: the non-CACHE records are equal -/
theorem C20_instructions_311 (t : OpTable) (ht : t ∈ Gen.allTables) (d : DisTbl) (hd : disTblFor t = some d)
    (h11 : verGe d.version 3 11 = true) (code : Bytes) (hbytes : IsBytes code) (hck : CacheOk t d code) (hc : CarryOk t code)
    (starts : List (Nat × Int)) (excTargets : List Int) :
    (xdisInstructions t code starts excTargets).map (List.filter fun r => r.opcode != 0) =
    disInstructions d code starts excTargets :=
  instructions_of t d code starts excTargets (List.filter nc) _ (fun s l => assemble_filter s l starts nc)
    (C02_stream_311_all t ht d hd h11 code hbytes hck) (C04.C04_labels_311_all t ht d hd h11 code hbytes hck hc)

/-- non-vacuity: a 3.8 code string with a three-prefix operand and a jump gives records, with a label and a line start -/
example : (xdisInstructions Gen.opcode_38 [144, 1, 144, 2, 144, 3, 100, 4, 113, 0, 1, 0] [(0, 7)] []).map
      (fun rs => (rs.length, rs.map (·.isJumpTarget), rs.map (·.startsLine))) =
    some (6, [true, false, false, false, false, false], [some 7, none, none, none, none, none]) := by
  decide +kernel

end XV.Props.C20.Instructions
