/-
C10 — what the simulation (C10/Sim.lean) and the writer round trip (C14/Dumps.lean) both need of the
Spec: the `run` equations of marshal.c's two reading primitives and the characterisation of the marshal
eras by version tests.  The declarations are in the namespace of the simulation.
-/
import XV.Spec.Marshal
import XV.Lemmas.Run
import XV.Lemmas.OpTable
namespace XV.Props.C10.Sim
open XV XV.Model.Unmarshal XV.Spec.Marshal

theorem P_run_bind (p : P α) (f : α → P β) (s : PSt) :
    (p >>= f).run s = match p.run s with | .ok (a, s') => (f a).run s' | .error er => .error er := by
  rw [Run.bind]; cases p.run s <;> rfl

theorem rd_run (k : Nat) (s : PSt) :
    (rd k).run s = if s.inp.length < k then .error .eof else .ok (s.inp.take k, { s with inp := s.inp.drop k }) := by
  unfold rd
  rw [Run.get_bind]
  split <;> rfl

theorem u8_run (s : PSt) : u8.run s = match s.inp with
    | [] => .error .eof
    | x :: rest => .ok (x, { s with inp := rest }) := by
  unfold u8
  rw [P_run_bind, rd_run]
  cases s.inp with
  | nil => rfl
  | cons x rest => rfl

/-- `verGeL` is `verGe` of the first two components of the version, a missing minor counting as 0 -/
theorem verGeL_mono (v : List Nat) (a b a' b' : Nat) (hle : a' < a ∨ (a' = a ∧ b' ≤ b))
    (h : verGeL v a b = true) : verGeL v a' b' = true :=
  match v, h with
  | [], h => nomatch h
  | [x], h => Model.verGe_mono (v := (x, 0)) hle h
  | x :: y :: _, h => Model.verGe_mono (v := (x, y)) hle h

theorem verGeL_anti (v : List Nat) (a b a' b' : Nat) (hle : a' < a ∨ (a' = a ∧ b' ≤ b))
    (h : verGeL v a' b' = false) : verGeL v a b = false :=
  Bool.eq_false_iff.2 fun hh => Bool.eq_false_iff.1 h (verGeL_mono v a b a' b' hle hh)

theorem era_spec (v : List Nat) :
    era v ≤ 4 ∧ (era v = 4 ↔ verGeL v 3 4 = true) ∧ (3 ≤ era v ↔ verGeL v 3 0 = true) := by
  unfold era
  by_cases h34 : verGeL v 3 4 = true
  · simp [h34, verGeL_mono v 3 4 3 0 (by omega) h34]
  by_cases h30 : verGeL v 3 0 = true
  · simp [h34, h30]
  have : (if verGeL v 2 5 = true then 2 else if verGeL v 2 4 = true then 1 else 0) ≤ 2 := by
    repeat' split
    all_goals decide
  rw [if_neg h34, if_neg h30]
  exact ⟨by omega, iff_of_false (by omega) h34, iff_of_false (by omega) h30⟩

theorem era_eq4 (v : List Nat) : (era v = 4) ↔ verGeL v 3 4 = true := (era_spec v).2.1

theorem era_lt4_of_py2 (v : List Nat) (h : verGeL v 3 0 = false) : era v ≤ 2 :=
  Nat.le_of_not_lt fun h3 => Bool.eq_false_iff.1 h ((era_spec v).2.2.1 h3)

end XV.Props.C10.Sim
