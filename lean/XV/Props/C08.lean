/-
C08 — Magic-number knowledge is coherent and agrees with CPython's registry.
Table theorems quantify over the COMPLETE generated
tables (regenerated from /repo on every run) and are checked by the kernel
(`decide +kernel`): the quantifier *is* the table, so this is a proof, not a sample.
-/
import XV.Spec.Magic
namespace XV.Props.C08
open XV XV.Model XV.Spec.Magic

theorem int2magic_eq (n : Nat) :
    int2magic n = toLE 2 n ++ if n = 39170 ∨ n = 39171 then [0x99, 0x00] else [13, 10] := by
  unfold int2magic; split <;> rfl

/-- magic2int ∘ int2magic = id on every 16-bit magic -/
theorem C08_inverse_int (n : Nat) (h : n < 65536) : magic2int (int2magic n) = some n := by
  -- the length test and `take 2` compute on `toLE 2 n ++ [_, _]`
  have : magic2int (int2magic n) = some (leNat (toLE 2 n)) := by rw [int2magic_eq]; split <;> rfl
  rw [this, leNat_toLE 2 n h]

/-- a 4-byte magic as xdis writes it: `\r\n` tail, or `\x99\x00` for 39170/39171 -/
def WFMagic (b : Bytes) : Prop :=
  b.length = 4 ∧ AllBytes b ∧
  b.drop 2 = (if leNat (b.take 2) = 39170 ∨ leNat (b.take 2) = 39171 then [0x99, 0x00] else [13, 10])

/-- int2magic ∘ magic2int = id on every well-formed 4-byte magic -/
theorem C08_inverse_bytes (b : Bytes) (h : WFMagic b) :
    ∃ n, magic2int b = some n ∧ n < 65536 ∧ int2magic n = b := by
  obtain ⟨hl, hb, ht⟩ := h
  have hb2 : AllBytes (b.take 2) := fun x hx => hb x (List.mem_of_mem_take hx)
  have hl2 : (b.take 2).length = 2 := by simp [hl]
  have hlt := leNat_lt (b.take 2) hb2
  have hrt := toLE_leNat (b.take 2) hb2
  rw [hl2] at hlt hrt
  refine ⟨leNat (b.take 2), if_pos hl, hlt, ?_⟩
  rw [int2magic_eq, ← ht, hrt, List.take_append_drop]

/-- non-vacuity: the 2.7 and the 1.0 magics are well formed -/
example : WFMagic [0x03, 0xf3, 13, 10] ∧ WFMagic [0x02, 0x99, 0x99, 0x00] := by
  constructor <;> (refine ⟨rfl, by decide, by decide⟩)

/-- every magic CPython's registry lists maps to that release's major.minor -/
theorem C08_registry : ∀ r ∈ Gen.registry, registryRowOk r = true := by decide +kernel

/-- every accepted magic resolves to a version tuple and to an opcode table -/
theorem C08_total : ∀ p ∈ Gen.magicint2version, acceptedRowOk p = true := by decide +kernel

/-- every release name that names a CPython final release carries the magic that
    release writes according to CPython's registry -/
theorem C08_release : ∀ p ∈ Gen.magicsTbl, releaseRowOk p = true := by decide +kernel

/-- ... and according to every interpreter installed here (what `sysinfo2magic` returns) -/
theorem C08_installed : ∀ r ∈ Gen.installed, installedRowOk r = true := by decide +kernel

/-- the two magic tables are views of one another -/
theorem C08_versions : ∀ p ∈ Gen.magicint2version, versionsRowOk p = true := by decide +kernel

/-- non-vacuity of the table theorems -/
example : Gen.registry.length > 100 ∧ Gen.magicint2version.length > 100 ∧ Gen.installed.length > 0 := by
  decide +kernel

end XV.Props.C08
