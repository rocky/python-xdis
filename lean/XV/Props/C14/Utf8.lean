/-
C14 — text of any code points: the UTF-8 bytes xdis.marsh writes (`str.encode("utf-8",
"surrogatepass")`) decode, as marshal.c decodes a 'u' object (surrogatepass), to the same
code points — for every string, every code point up to U+10FFFF, lone surrogates included.
-/
import XV.Model.Marsh
import XV.Base.Utf8
namespace XV.Props.C14.Utf8
open XV XV.Model.Marsh

theorem utf8Enc_length_le (cs : List Nat) : cs.length ≤ (utf8Enc cs).length := by
  induction cs with
  | nil => simp [utf8Enc]
  | cons c cs ih =>
    rw [utf8Enc]
    simp only [List.length_append, List.length_cons]
    split <;> (try split) <;> (try split) <;> simp <;> omega

theorem cont_enc (x : Nat) : Utf8.cont (0x80 + x % 64) = true := by
  simp [Utf8.cont]; omega

/-- the 6-bit groups the encoder cuts a code point into, put together again by the decoder -/
theorem join2 (c : Nat) : c / 64 * 64 + c % 64 = c := by omega
theorem join3 (c : Nat) : c / 4096 * 4096 + c / 64 % 64 * 64 + c % 64 = c := by omega
theorem join4 (c : Nat) : c / 262144 * 262144 + c / 4096 % 64 * 4096 + c / 64 % 64 * 64 + c % 64 = c := by omega

theorem decode_enc (cs : List Nat) (hcp : ∀ c ∈ cs, c < 0x110000) (fuel : Nat) (hf : cs.length < fuel) :
    Utf8.decode true fuel (utf8Enc cs) = some cs := by
  induction cs generalizing fuel with
  | nil => cases fuel <;> rfl
  | cons c cs ih =>
    obtain ⟨f, rfl⟩ : ∃ f, fuel = f + 1 := ⟨fuel - 1, by simp at hf; omega⟩
    have hc : c < 0x110000 := hcp c (by simp)
    have ih' := ih (fun x hx => hcp x (by simp [hx])) f (by simp at hf; omega)
    -- one case per length class: `decode` unfolded once and its clause for this input found by computation;
    -- the lead byte selects the branch, the continuation bytes pass `cont`
    rw [utf8Enc]
    split
    · rw [List.cons_append, List.nil_append, Utf8.decode.eq_def]
      dsimp only
      rw [if_pos ‹_›, ih']; rfl
    split
    · simp only [List.cons_append, List.nil_append]
      rw [Utf8.decode.eq_def]
      dsimp only
      rw [if_neg (by omega), if_neg (by omega), if_pos (by omega)]
      simp only [cont_enc, Nat.add_sub_cancel_left, join2, if_true, ih', Option.map_some]
    split
    · simp only [List.cons_append, List.nil_append]
      rw [Utf8.decode.eq_def]
      dsimp only
      rw [if_neg (by omega), if_neg (by omega), if_neg (by omega), if_pos (by omega)]
      simp only [cont_enc, Nat.add_sub_cancel_left, join3, Bool.and_self, if_true, ih', Option.map_some]
      rw [if_neg ‹_›, Bool.not_true, Bool.and_false]      -- surrogatepass switches the surrogate test off
      rfl
    · simp only [List.cons_append, List.nil_append]
      rw [Utf8.decode.eq_def]
      dsimp only
      rw [if_neg (by omega), if_neg (by omega), if_neg (by omega), if_neg (by omega), if_pos (by omega)]
      simp only [cont_enc, Nat.add_sub_cancel_left, join4, Bool.and_self, if_true, ih', Option.map_some]
      rw [if_neg (by simp; omega)]

/-- C14_text: `marshal.loads`'s UTF-8 decoding of what `xdis.marsh.dumps` wrote for a str -/
theorem C14_text (cs : List Nat) (hcp : ∀ c ∈ cs, c < 0x110000) :
    Utf8.decodeSurrogatePass (utf8Enc cs) = some cs := by
  unfold Utf8.decodeSurrogatePass
  exact decode_enc cs hcp _ (by have := utf8Enc_length_le cs; omega)

/-- non-vacuity: ASCII, Latin-1, BMP, astral and a lone surrogate -/
example : Utf8.decodeSurrogatePass (utf8Enc [97, 233, 8364, 128512, 0xdc80, 0x10FFFF]) =
    some [97, 233, 8364, 128512, 0xdc80, 0x10FFFF] := by decide +kernel

end XV.Props.C14.Utf8
