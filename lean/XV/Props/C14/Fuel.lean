/-
C14 — the fuel of the fast-reader Model is never the reason `loads` ends: for EVERY byte string the
`2·length + 3` units `loads` supplies are never exhausted (every nested `load` consumes a byte first,
every loop iteration spends fuel only together with a byte).  So on arbitrary input the Model's answer
is always one of Python's outcomes, and the correspondence on malformed streams compares like with like.
-/
import XV.Model.FastLoad
import XV.Lemmas.Fuel
namespace XV.Props.C14.Fuel
open XV XV.Model.Unmarshal XV.Model.FastLoad XV.Fueled

abbrev OkF (B d : Nat) (m : F α) : Prop :=
  Fueled.Ok (fun s : FSt => s.inp.length) FErr.outOfFuel B d m

theorem ok_read1 {B : Nat} : OkF B 1 read1 := by
  refine ⟨fun s _ => ?_⟩
  unfold read1
  rw [Run.get_bind]
  split
  · exact ⟨nofun, nofun⟩
  · rename_i hi
    exact ⟨nofun, fun a s' hr => by cases hr; simp [hi]⟩

/-- `_read` and `_r_long`: EOFError, or some bytes fewer -/
theorem ok_drop {B : Nat} (c : FSt → Prop) [DecidablePred c] (k : FSt → Nat) (v : FSt → α) :
    OkF B 0 (do let s ← get
                    if c s then throw FErr.eof
                    else do set { s with inp := s.inp.drop (k s) }; pure (v s)) := by
  refine ⟨fun s _ => ?_⟩
  rw [Run.get_bind]
  split
  · exact ⟨nofun, nofun⟩
  · exact ⟨nofun, fun a s' hr => by cases hr; simp⟩

theorem ok_read {B : Nat} (n : Int) : OkF B 0 (Model.FastLoad.read n) := ok_drop _ _ _
theorem ok_rLong {B : Nat} : OkF B 0 rLong := ok_drop _ _ _

theorem ok_r1 {B : Nat} : OkF B 0 read1 := ok_read1.weaken (Nat.zero_le 1)

theorem ok_rShort {B : Nat} : OkF B 0 rShort := Ok.seq ok_r1 fun _ => Ok.seq ok_r1 fun _ => Ok.ret _

theorem ok_rLong64 {B : Nat} : OkF B 0 rLong64 := by
  unfold rLong64
  iterate 8 refine Ok.seq ok_r1 fun _ => ?_
  exact Ok.ret _

theorem ok_rDigits {B : Nat} : ∀ (k j : Nat) (acc : Int), OkF B 0 (Model.FastLoad.rDigits k j acc) := by
  intro k
  induction k with
  | zero => intro j acc; rw [Model.FastLoad.rDigits]; exact Ok.ret _
  | succ k ih => intro j acc; rw [Model.FastLoad.rDigits]; exact Ok.seq ok_rShort (fun _ => ih _ _)

theorem load_step (f B : Nat) (hB : 2 * B + 1 ≤ f + 1)
    (hI : ∀ n B', 2 * B' + 2 ≤ f → OkF B' 0 (loadItems f n))
    (hD : ∀ B', 2 * B' + 2 ≤ f → OkF B' 0 (loadDict f)) :
    OkF B 1 (load (f + 1)) := by
  rw [load]
  refine Ok.bind ok_read1 (fun hB1 c => ?_)
  have hI' := fun n => hI n (B - 1) (by omega)
  have hD' := hD (B - 1) (by omega)
  split
  all_goals
    ok_steps [ok_rLong, ok_rLong64, ok_r1, ok_read _, ok_rDigits _ _ _, Ok.modify _ (fun _ => rfl), Ok.get,
      hI' _, hD']

theorem items_step (f n B : Nat) (hB : 2 * B + 2 ≤ f + 1)
    (hO : ∀ B', 2 * B' + 1 ≤ f → OkF B' 1 (load f))
    (hI : ∀ n B', 2 * B' + 2 ≤ f → OkF B' 0 (loadItems f n)) :
    OkF B 0 (loadItems (f + 1) n) := by
  cases n with
  | zero =>
    rw [loadItems]
    · exact Ok.ret _
    · omega
  | succ n =>
    rw [loadItems]
    refine Ok.bind (hO B (by omega)) fun hB1 x => ?_
    split
    · exact Ok.raise _ (by decide)
    · exact Ok.seq (hI n (B - 1) (by omega)) fun _ => Ok.ret _

theorem dict_step (f B : Nat) (hB : 2 * B + 2 ≤ f + 1)
    (hO : ∀ B', 2 * B' + 1 ≤ f → OkF B' 1 (load f))
    (hD : ∀ B', 2 * B' + 2 ≤ f → OkF B' 0 (loadDict f)) :
    OkF B 0 (loadDict (f + 1)) := by
  rw [loadDict]
  refine Ok.bind (hO B (by omega)) fun hB1 k => ?_
  split
  · exact Ok.ret _
  · refine Ok.bind (hO (B - 1) (by omega)) fun hB2 v => ?_
    split
    · exact Ok.raise _ (by decide)
    · exact Ok.ite (Ok.seq (hD (B - 1 - 1) (by omega)) fun _ => Ok.ret _) (Ok.raise _ (by decide))

theorem fuel_all : ∀ f,
    (∀ B, 2 * B + 1 ≤ f → OkF B 1 (load f)) ∧
    (∀ n B, 2 * B + 2 ≤ f → OkF B 0 (loadItems f n)) ∧
    (∀ B, 2 * B + 2 ≤ f → OkF B 0 (loadDict f)) := by
  intro f
  induction f with
  | zero => exact ⟨fun B h => by omega, fun n B h => by omega, fun B h => by omega⟩
  | succ f ih =>
    obtain ⟨iO, iI, iD⟩ := ih
    exact ⟨fun B hB => load_step f B hB iI iD, fun n B hB => items_step f n B hB iO iI, fun B hB => dict_step f B hB iO iD⟩

/-- C14_fuel: `xdis.marsh.loads` (Model) on ANY byte string never ends for lack of fuel -/
theorem C14_fuel (data : Bytes) : Model.FastLoad.loads data ≠ .error .outOfFuel := by
  unfold Model.FastLoad.loads
  have h := (fuel_all (2 * data.length + 3)).1 data.length (by omega)
  have := (h.run { inp := data, strs := [] } (Nat.le_refl _)).1
  intro hc
  split at hc
  · cases hc
  · cases hc
  · rename_i e he
    cases hc
    exact this he

end XV.Props.C14.Fuel
