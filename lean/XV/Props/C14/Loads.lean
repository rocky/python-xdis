/-
C14 — the loads direction: for EVERY plain value, `xdis.marsh.loads` (Model of `_FastUnmarshaller`)
applied to the bytes marshal.c's writer produces in the text-float format versions 0 and 1
(Spec.MarshalW, validated byte-for-byte against the hosts) gives the value back, of the same kinds,
consuming all bytes.
-/
import XV.Props.C14.Dumps
import XV.Model.FastLoad
import XV.Spec.MarshalW
import XV.Lemmas.Bits
namespace XV.Props.C14.Loads
open XV XV.Model.Unmarshal XV.Model.Marsh XV.Model.FastLoad XV.Spec.MarshalW XV.Props.C14 XV.Props.C14.Dumps

theorem w32_eq (x : Int) : w32 x = Model.Marsh.wLong x := rfl
theorem w16_eq (d : Nat) : w16 d = Model.Marsh.wShort d := rfl
theorem digits_eq (f x : Nat) : digits f x = Model.Marsh.digits15 f x := by
  induction f generalizing x with
  | zero => rfl
  | succ f ih => simp only [digits, Model.Marsh.digits15, ih]
theorem encUtf8_eq (cs : List Nat) : encUtf8 cs = Model.Marsh.utf8Enc cs := by
  induction cs with
  | nil => rfl
  | cons c cs ih => simp only [encUtf8, Model.Marsh.utf8Enc, ih]

theorem wInt_eq (x : Int) :
    wInt x = if -2147483648 ≤ x ∧ x < 2147483648 then 105 :: wLong x else dumpLong x := by
  unfold wInt dumpLong
  rw [digits_eq, show w16 = wShort from funext w16_eq]
  rfl

def fst (inp : Bytes) (strs : List V) : FSt := { inp := inp, strs := strs }

theorem run_pure (a : α) (s : FSt) : (pure a : F α).run s = .ok (a, s) := rfl

theorem read1_bind (K : Nat → F α) (b : Nat) (tail : Bytes) (s : List V) :
    (read1 >>= K).run (fst (b :: tail) s) = (K b).run (fst tail s) := rfl

theorem read_reads (b : Bytes) : Reads fst (Model.FastLoad.read (b.length : Int)) b b := by
  intro tail s
  unfold Model.FastLoad.read
  rw [Run.get_bind, if_neg (by simp [fst])]
  show Except.ok (List.take _ (b ++ tail), fst (List.drop _ (b ++ tail)) s) = _
  rw [Int.toNat_natCast, List.take_left, List.drop_left]

theorem rLong_reads {x : Int} (h : i32ok x = true) : Reads fst rLong (wLong x) x := by
  intro tail s
  have hl := wLong_length x
  unfold rLong
  rw [Run.get_bind, if_neg (by simp [fst, hl])]
  show Except.ok (signedOf 4 (leNat (List.take 4 (_ ++ tail))), fst (List.drop 4 (_ ++ tail)) s) = _
  rw [List.take_left' hl, List.drop_left' hl, wLong_roundtrip x ((i32ok_iff x).1 h).1 ((i32ok_iff x).1 h).2]

theorem size_reads {n : Nat} (h : n < 2147483648) : Reads fst rLong (wLong (n : Int)) (n : Int) :=
  rLong_reads ((i32ok_iff n).2 (by omega))

theorem rShort_reads {d : Nat} (h : d < 32768) : Reads fst rShort (wShort d) (d : Int) := by
  intro tail s
  rw [← wShort_roundtrip d h]
  rfl

/- the digit loop: `x | (d << 15 i)` adds, because the accumulated value stays below 2^(15 i) -/

theorem pyOr_nat (a b : Nat) : pyOr (a : Int) (b : Int) = ((a ||| b : Nat) : Int) := rfl

theorem rdigits_reads (ds : List Nat) (hds : ∀ d ∈ ds, d < 32768) (j a : Nat) (ha : a < 2 ^ (j * 15)) :
    Reads fst (Model.FastLoad.rDigits ds.length j a) (ds.flatMap wShort) ((a + digitsVal ds * 2 ^ (j * 15) : Nat) : Int) := by
  induction ds generalizing j a with
  | nil => intro tail s; rw [digitsVal, Nat.zero_mul, Nat.add_zero]; rfl
  | cons d ds ih =>
    have hd : d < 32768 := hds d (by simp)
    have hlt : a + d * 2 ^ (j * 15) < 2 ^ ((j + 1) * 15) := by
      rw [pow15]
      have : d * 2 ^ (j * 15) ≤ 32767 * 2 ^ (j * 15) := Nat.mul_le_mul_right _ (by omega)
      omega
    intro tail s
    simp only [List.length_cons, List.flatMap_cons, List.append_assoc]
    rw [Model.FastLoad.rDigits, (rShort_reads hd).run_bind, natCast_shift, pyOr_nat, Bits.or_shift a d _ ha,
      ih (fun x hx => hds x (by simp [hx])) (j + 1) _ hlt, digitsVal_step]
    rfl

mutual
/-- values marshal.c writes in versions 0/1 that the property speaks of; size fields fit 31 bits; set elements
    and dict keys are hashable (true of every Python set and dict) -/
def PlainW : V → Bool
  | .none | .tru | .fls | .ellipsis | .stopIter => true
  | .int i | .long i => decide ((digits (i.natAbs + 1) i.natAbs).length < 2147483648)
  | .floatText s => decide (s.length < 256)
  | .complexText r i => decide (r.length < 256) && decide (i.length < 256)
  | .bytes b => decide (b.length < 2147483648)
  | .str cps => cps.all (· < 0x110000) && decide ((encUtf8 cps).length < 2147483648)
  | .tuple xs | .list xs => decide (xs.length < 2147483648) && PlainWL xs
  | .set xs | .fset xs => decide (xs.length < 2147483648) && PlainWL xs && hashableL xs
  | .dict kvs => PlainWKV kvs
  | _ => false
def PlainWL : List V → Bool
  | [] => true
  | x :: xs => PlainW x && PlainWL xs
def PlainWKV : List (V × V) → Bool
  | [] => true
  | (k, v) :: r => PlainW k && PlainW v && hashable k && PlainWKV r
end

mutual
theorem hashable_norm : (v : V) → hashable (norm v) = hashable v
  | .tuple xs => by simp only [norm, hashable]; exact hashableL_norm xs
  | .none | .tru | .fls | .ellipsis | .stopIter | .int _ | .long _ | .float _ | .floatText _ | .complex _ _
  | .complexText _ _ | .bytes _ | .str _ | .u2 _ | .list _ | .set _ | .fset _ | .dict _ | .code _ => by simp [norm, hashable]
theorem hashableL_norm : (xs : List V) → hashableL (normL xs) = hashableL xs
  | [] => rfl
  | x :: xs => by simp only [normL, hashableL, hashable_norm x, hashableL_norm xs]
end

/- in the lemmas per type code `show` names the first reader of `load`'s branch for the code, found by computation -/

variable {fuel : Nat}

theorem leaf_none (f : Nat) (tail : Bytes) (s : List V) :
    (load (f + 1)).run (fst (78 :: tail) s) = .ok (some V.none, fst tail s) := rfl

/-- the `_NULL` sentinel, which ends a dict -/
theorem null_bind (K : Option V → F α) (tail : Bytes) (s : List V) :
    (load (fuel + 1) >>= K).run (fst (48 :: tail) s) = (K none).run (fst tail s) := rfl

theorem int_case (i : Int) (hp : (digits (i.natAbs + 1) i.natAbs).length < 2147483648) :
    Reads fst (load (fuel + 1)) (wInt i) (some (.int i)) := by
  intro tail s
  rw [wInt_eq]
  split
  · rename_i hr
    rw [List.cons_append, load, read1_bind]
    show (rLong >>= _).run _ = _
    rw [(rLong_reads ((i32ok_iff i).2 hr)).run_bind]
    rfl
  · rw [digits_eq] at hp
    obtain ⟨n, ds, hdump, h1, h2, hna, hlt, hval, -⟩ := dumpLong_spec i hp
    have hdig := rdigits_reads ds hlt 0 0 (by decide)
    simp only [Nat.zero_mul, Nat.pow_zero, Nat.mul_one, Nat.zero_add, Int.natCast_zero] at hdig
    rw [hdump, List.cons_append, List.append_assoc, load, read1_bind]
    show (rLong >>= _).run _ = _
    rw [(rLong_reads ((i32ok_iff n).2 ⟨h1, h2⟩)).run_bind, hna, hdig.run_bind, hval]
    rfl

theorem float_case (t : Bytes) (ht : t.length < 256) : Reads fst (load (fuel + 1)) (wObj (.floatText t)) (some (.floatText t)) := by
  intro tail s
  simp only [wObj, List.cons_append, List.nil_append, Nat.mod_eq_of_lt ht]
  rw [load, read1_bind]
  show (read1 >>= _).run _ = _
  rw [read1_bind, (read_reads t).run_bind]
  rfl

theorem complex_case (re im : Bytes) (hr : re.length < 256) (hi : im.length < 256) :
    Reads fst (load (fuel + 1)) (wObj (.complexText re im)) (some (.complexText re im)) := by
  intro tail s
  simp only [wObj, List.cons_append, List.nil_append, List.append_assoc, Nat.mod_eq_of_lt hr, Nat.mod_eq_of_lt hi]
  rw [load, read1_bind]
  show (read1 >>= _).run _ = _
  rw [read1_bind, (read_reads re).run_bind, read1_bind, (read_reads im).run_bind]
  rfl

theorem bytes_case (b : Bytes) (hb : b.length < 2147483648) : Reads fst (load (fuel + 1)) (wObj (.bytes b)) (some (.bytes b)) := by
  intro tail s
  simp only [wObj, w32_eq, List.cons_append, List.nil_append, List.append_assoc]
  rw [load, read1_bind]
  show (rLong >>= _).run _ = _
  rw [(size_reads hb).run_bind, (read_reads b).run_bind]
  rfl

theorem str_case (cps : List Nat) (hc : ∀ c ∈ cps, c < 0x110000) (hl : (encUtf8 cps).length < 2147483648) :
    Reads fst (load (fuel + 1)) (wObj (.str cps)) (some (.str cps)) := by
  intro tail s
  simp only [wObj, w32_eq, List.cons_append, List.nil_append, List.append_assoc]
  rw [load, read1_bind]
  show (rLong >>= _).run _ = _
  rw [(size_reads hl).run_bind, (read_reads _).run_bind, encUtf8_eq, Utf8.C14_text cps hc]
  rfl

theorem seq_case (xs : List V) (hlen : xs.length < 2147483648)
    (hitems : Reads fst (loadItems fuel xs.length) (wList xs) (normL xs)) :
    ∀ v ∈ [V.tuple xs, .list xs, .set xs, .fset xs], (v = .set xs ∨ v = .fset xs → hashableL xs = true) →
      Reads fst (load (fuel + 1)) (wObj v) (some (norm v)) := by
  intro v hv hh tail s
  simp only [List.mem_cons, List.mem_nil_iff, or_false] at hv
  rcases hv with rfl | rfl | rfl | rfl
  all_goals
    simp only [wObj, w32_eq, norm, List.cons_append, List.nil_append, List.append_assoc]
    rw [load, read1_bind]
    show (rLong >>= _).run _ = _
    rw [(size_reads hlen).run_bind, Int.toNat_natCast, hitems.run_bind]
  · rfl
  · rfl
  · rw [hashableL_norm, if_pos (hh (.inl rfl))]; rfl
  · rw [hashableL_norm, if_pos (hh (.inr rfl))]; rfl

theorem dict_case (kvs : List (V × V))
    (hkvs : ∀ tail s, (loadDict fuel).run (fst (wKVs kvs ++ 48 :: tail) s) = .ok (normKV kvs, fst tail s)) :
    Reads fst (load (fuel + 1)) (wObj (.dict kvs)) (some (.dict (normKV kvs))) := by
  intro tail s
  simp only [wObj, List.cons_append, List.nil_append, List.append_assoc]
  rw [load, read1_bind]
  show (loadDict fuel >>= _).run _ = _
  rw [Run.bind, hkvs]
  rfl

mutual
theorem reads_obj : (v : V) → PlainW v = true → ∀ fuel, size v ≤ fuel + 1 → Reads fst (load (fuel + 1)) (wObj v) (some (norm v))
  | .none | .tru | .fls | .ellipsis | .stopIter => fun _ _ _ _ _ => rfl
  | .int i | .long i => fun hp _ _ => int_case i (by simpa [PlainW] using hp)
  | .floatText t => fun hp _ _ => float_case t (by simpa [PlainW] using hp)
  | .complexText re im => fun hp _ _ => by
      simp only [PlainW, Bool.and_eq_true, decide_eq_true_eq] at hp
      exact complex_case re im hp.1 hp.2
  | .bytes b => fun hp _ _ => bytes_case b (by simpa [PlainW] using hp)
  | .str cps => fun hp _ _ => by
      simp only [PlainW, Bool.and_eq_true, decide_eq_true_eq, List.all_eq_true] at hp
      exact str_case cps hp.1 hp.2
  | .tuple xs | .list xs => fun hp _ hs => by
      simp only [PlainW, size, Bool.and_eq_true, decide_eq_true_eq] at hp hs
      exact seq_case xs hp.1 (reads_items xs hp.2 _ (by omega)) _ (by simp) (by simp)
  | .set xs | .fset xs => fun hp _ hs => by
      simp only [PlainW, size, Bool.and_eq_true, decide_eq_true_eq] at hp hs
      exact seq_case xs hp.1.1 (reads_items xs hp.1.2 _ (by omega)) _ (by simp) (fun _ => hp.2)
  | .dict kvs => fun hp _ hs => by
      simp only [PlainW, size] at hp hs
      exact dict_case kvs (reads_kvs kvs hp _ (by omega))
  | .float _ | .complex _ _ | .u2 _ | .code _ => fun hp => by simp [PlainW] at hp
theorem reads_items : (xs : List V) → PlainWL xs = true → ∀ fuel, sizeL xs ≤ fuel →
    Reads fst (loadItems fuel xs.length) (wList xs) (normL xs)
  | [], _, fuel, hs => by
      obtain ⟨f, rfl⟩ : ∃ f, fuel = f + 1 := ⟨fuel - 1, by simp only [sizeL] at hs; omega⟩
      exact fun _ _ => rfl
  | x :: xs, hp, fuel, hs => by
      simp only [PlainWL, sizeL, Bool.and_eq_true] at hp hs
      obtain ⟨f, rfl⟩ : ∃ f, fuel = f + 2 := ⟨fuel - 2, by have := sizeL_pos xs; omega⟩
      intro tail s
      simp only [List.length_cons, wList, List.append_assoc, normL]
      rw [loadItems, (reads_obj x hp.1 f (by omega)).run_bind, (reads_items xs hp.2 (f + 1) (by omega)).run_bind]
      rfl
theorem reads_kvs : (kvs : List (V × V)) → PlainWKV kvs = true → ∀ fuel, sizeKV kvs ≤ fuel → ∀ tail s,
    (loadDict fuel).run (fst (wKVs kvs ++ 48 :: tail) s) = .ok (normKV kvs, fst tail s)
  | [], _, fuel, hs, _, _ => by
      obtain ⟨f, rfl⟩ : ∃ f, fuel = f + 2 := ⟨fuel - 2, by simp only [sizeKV] at hs; omega⟩
      rfl
  | (k, v) :: kvs, hp, fuel, hs, tail, s => by
      simp only [PlainWKV, sizeKV, Bool.and_eq_true] at hp hs
      obtain ⟨f, rfl⟩ : ∃ f, fuel = f + 2 := ⟨fuel - 2, by have := size_pos k; omega⟩
      simp only [wKVs, List.append_assoc, normKV]
      rw [loadDict, (reads_obj k hp.1.1.1 f (by omega)).run_bind, (reads_obj v hp.1.1.2 f (by omega)).run_bind]
      dsimp only
      rw [hashable_norm, if_pos hp.1.2, Run.bind, reads_kvs kvs hp.2 (f + 1) (by omega)]
      rfl
end

mutual
theorem size_le : (v : V) → PlainW v = true → size v + 1 ≤ 2 * (wObj v).length
  | .none | .tru | .fls | .ellipsis | .stopIter => fun _ => by simp [size, wObj]
  | .int i | .long i => fun _ => by
      simp only [size, wObj, wInt]
      split <;> simp [w32_eq, wLong_length] <;> omega
  | .floatText t => fun _ => by simp [size, wObj]; omega
  | .complexText a b => fun _ => by simp [size, wObj]; omega
  | .bytes b => fun _ => by simp [size, wObj, w32_eq, wLong_length]; omega
  | .str cps => fun _ => by simp [size, wObj, w32_eq, wLong_length]; omega
  | .tuple xs | .list xs => fun hp => by
      have := sizeL_le xs (by simp [PlainW] at hp; exact hp.2)
      simp [size, wObj, w32_eq, wLong_length]; omega
  | .set xs | .fset xs => fun hp => by
      have := sizeL_le xs (by simp [PlainW] at hp; exact hp.1.2)
      simp [size, wObj, w32_eq, wLong_length]; omega
  | .dict kvs => fun hp => by
      have := sizeKV_le kvs (by simpa [PlainW] using hp)
      simp [size, wObj]; omega
  | .float _ | .complex _ _ | .u2 _ | .code _ => fun hp => by simp [PlainW] at hp
theorem sizeL_le : (xs : List V) → PlainWL xs = true → sizeL xs ≤ 1 + 2 * (wList xs).length
  | [], _ => by simp [sizeL, wList]
  | x :: xs, hp => by
      simp only [PlainWL, Bool.and_eq_true] at hp
      have h1 := size_le x hp.1
      have h2 := sizeL_le xs hp.2
      simp [sizeL, wList]; omega
theorem sizeKV_le : (kvs : List (V × V)) → PlainWKV kvs = true → sizeKV kvs ≤ 2 + 2 * (wKVs kvs).length
  | [], _ => by simp [sizeKV, wKVs]
  | (k, v) :: r, hp => by
      simp only [PlainWKV, Bool.and_eq_true] at hp
      have h1 := size_le k hp.1.1.1
      have h2 := size_le v hp.1.1.2
      have h3 := sizeKV_le r hp.2
      simp [sizeKV, wKVs]; omega
end

theorem loads_wObj_append (v : V) (hp : PlainW v = true) (tail : Bytes) :
    Model.FastLoad.loads (wObj v ++ tail) = .ok (norm v, tail) := by
  have hsz := size_le v hp
  have h := reads_obj v hp (2 * (wObj v ++ tail).length + 2) (by simp only [List.length_append]; omega) tail []
  unfold Model.FastLoad.loads
  -- `loads` hands back the unread input of the final state
  exact congrArg (fun r => match r with
    | .ok (some v, s) => Except.ok (v, s.inp) | .ok (none, _) => .error FErr.nullValue | .error e => .error e) h

/-- C14_loads — for every plain value, `xdis.marsh.loads` applied to what the host's
    `marshal.dumps(v, 0)` / `marshal.dumps(v, 1)` writes gives back the value (of the same kinds; Python 3
    has one int type), consuming exactly those bytes; in particular the reader never raises and never
    runs out of fuel on such a stream -/
theorem C14_loads (v : V) (hp : PlainW v = true) : Model.FastLoad.loads (wObj v) = .ok (norm v, []) := by
  simpa using loads_wObj_append v hp []

/-- non-vacuity: 32-bit and big ints of both signs (both 'i' and 'l' encodings), text with Latin-1, BMP, astral
    and lone-surrogate code points, text floats, nested containers, hashable keys -/
example :
    let v := V.tuple [.int (2 ^ 100), .int 7, .long (-(2 ^ 31) - 1), .int (-(2 ^ 31)), .str [233, 8364, 128512, 0xdc80],
                      .floatText [49, 46, 53], .list [.dict [(.none, .int 1), (.tuple [.int 2], .none)], .fset [.bytes [0, 255]]],
                      .set [.str [97]], .tru, .ellipsis]
    PlainW v = true ∧ Model.FastLoad.loads (wObj v) = .ok (norm v, []) := by
  constructor
  · decide +kernel
  · exact C14_loads _ (by decide +kernel)

end XV.Props.C14.Loads
