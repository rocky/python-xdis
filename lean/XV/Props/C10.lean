/-
C10 — Every marshal encoding of a constant decodes to the same value.
Model = XV.Model.Unmarshal (transcription of _VersionIndependentUnmarshaller);
Spec = XV.Spec.Marshal (marshal.c's reader per era).
-/
import XV.Model.Unmarshal
import XV.Spec.Marshal
import XV.Gen.Layouts
import XV.Gen.Magics
namespace XV.Props.C10
open XV XV.Model.Unmarshal

/-- marshal.c's type codes and what each denotes, in xdis's method vocabulary -/
def marshalC : List (String × String) :=
  [(".", "Ellipsis"), ("0", "C_NULL"), ("(", "tuple"), (")", "small_tuple"), ("<", "set"), (">", "frozenset"),
   ("?", "unknown"), ("A", "ASCII_interned"), ("C", "code"), ("F", "False"), ("I", "int64"), ("N", "None"),
   ("R", "python2_string_reference"), ("S", "stopIteration"), ("T", "True"), ("Z", "short_ASCII_interned"),
   ("[", "list"), ("a", "ASCII"), ("c", "code"), ("f", "float"), ("g", "binary_float"), ("i", "int32"),
   ("l", "long"), ("r", "object_reference"), ("s", "string"), ("t", "interned"), ("u", "unicode"),
   ("x", "complex"), ("y", "binary_complex"), ("z", "short_ASCII"), ("{", "dict")]

/-- UNMARSHAL_DISPATCH_TABLE maps every marshal.c type code to the reader of that type
    (in particular '<' is a set and '>' a frozenset), and every reader it names exists -/
theorem C10_dispatch :
    (marshalC.all fun p => Gen.dispatch.lookup p.1 == some p.2) = true ∧
    (Gen.dispatch.all fun p => Gen.dispatchMethods.contains p.2) = true ∧
    Gen.dispatch.length = marshalC.length := by decide +kernel

/-- the list identity behind reserve / insert (the readers themselves are related in C10/Sim.lean:
    `lock_reserve`, `lock_insert`) -/
theorem set_reserved {α : Type} (refs mid : List α) (p v : α) :
    ((refs ++ [p]) ++ mid).set refs.length v = refs ++ [v] ++ mid := by
  simp

/-- for xdis's table: `r_ref_reserve` appends a placeholder at index `refs.length`, `r_ref_insert` sets that index -/
theorem reserve_insert (refs mid : List V) (placeholder v : V) :
    ((refs ++ [placeholder]) ++ mid).set refs.length v = refs ++ [v] ++ mid :=
  set_reserved refs mid placeholder v

/-- for marshal.c's table: reserve appends a NULL slot, insert fills it -/
theorem spec_reserve_insert (refs mid : List (Option V)) (v : V) :
    ((refs ++ [none]) ++ mid).set refs.length (some v) = refs ++ [some v] ++ mid :=
  set_reserved refs mid none (some v)

theorem digit_step (acc md : Int) (j : Nat) : acc + md * (2 : Int) ^ (j * 15) = acc + md * 2 ^ (15 * j) := by
  rw [Nat.mul_comm]

/-- regression witness, kernel-evaluated on the Model: a small tuple whose first item is a FLAG_REF'd '(' tuple
    and whose second item is an 'r' reference to it loads, and no byte is left -/
example : (loadCode 3413 [3, 8] false 400
      [0xa9, 2, 0xa8, 2, 0, 0, 0, 0xe9, 0, 0, 0, 0, 0xe9, 1, 0, 0, 0, 0x72, 1, 0, 0, 0]).toOption.map (·.2.length) = some 0 := by
  decide +kernel

end XV.Props.C10
