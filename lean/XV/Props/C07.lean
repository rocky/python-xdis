/-
C07 — Results do not depend on the host Python or on which loader path is taken.

* C07_sites — the scan of /repo/xdis regenerated on every run finds no read of the host
  interpreter's identity outside the reviewed list ref/host_sites.txt (each entry classified
  as unable to change a decoded result between hosts 3.8–3.13).  A new host-dependent
  branch anywhere in the package breaks this theorem.
* C07_paths — the loader switch, as transcribed in Model.HostPath: if the host's built-in
  marshal and xdis's unmarshaller are observationally equal on files of the host's own
  version (the premise the differential tie tests on six hosts), then what is observed is
  the same function of (magic, payload) on every host, whichever path is taken.
* C07_lines_paths — the duck-typed line access: for a 3.10 table, findlinestarts over the
  native object's co_lines() (CPython's ranges) and over xdis's portable Code310.co_lines()
  give the same pairs, for every table of even length.
-/
import XV.Model.HostPath
import XV.Props.C05
import XV.Gen.Effects
namespace XV.Props.C07
open XV XV.Model XV.Model.HostPath

def pairBeq (a b : Str × Str) : Bool := a.1 == b.1 && a.2 == b.2

-- the second conjunct guards against a scan that finds nothing (it would make the first vacuous)
theorem C07_sites : (Gen.hostSites.all fun s => Gen.hostAllow.any (pairBeq s)) = true ∧
    Gen.hostSites.length > 20 := by decide +kernel

def Agrees {N P O : Type} (h : Host N) (unmarshal : Nat → Bytes → Option P) (obsN : N → O) (obsP : P → O) : Prop :=
  ∀ data, (h.marshalLoads data).map obsN = (unmarshal h.magic data).map obsP

theorem C07_path {N P O : Type} (h : Host N) (unmarshal : Nat → Bytes → Option P) (obsN : N → O) (obsP : P → O)
    (ha : Agrees h unmarshal obsN obsP) (fileMagic : Nat) (data : Bytes) :
    (loadCode h unmarshal fileMagic data).map (observe obsN obsP) = (unmarshal fileMagic data).map obsP := by
  unfold loadCode
  split
  · next hm => rw [Option.map_map, ← eq_of_beq hm, ← ha data]; rfl
  · rw [Option.map_map]; rfl

/-- C07_paths: any two hosts (of any native code type) observe the same thing on the same file -/
theorem C07_paths {N1 N2 P O : Type} (h1 : Host N1) (h2 : Host N2) (unmarshal : Nat → Bytes → Option P)
    (o1 : N1 → O) (o2 : N2 → O) (obsP : P → O)
    (a1 : Agrees h1 unmarshal o1 obsP) (a2 : Agrees h2 unmarshal o2 obsP) (fileMagic : Nat) (data : Bytes) :
    (loadCode h1 unmarshal fileMagic data).map (observe o1 obsP) =
    (loadCode h2 unmarshal fileMagic data).map (observe o2 obsP) := by
  rw [C07_path h1 unmarshal o1 obsP a1, C07_path h2 unmarshal o2 obsP a2]

/-- non-vacuity: a host whose marshal is the unmarshaller itself agrees; both branches are reachable -/
example : Agrees (N := Nat) (P := Nat) (O := Nat) { magic := 3413, marshalLoads := fun d => some d.length }
    (fun _ d => some d.length) id id := by intro d; rfl
example : (loadCode (N := Nat) (P := Nat) { magic := 3413, marshalLoads := fun d => some d.length } (fun _ d => some d.length) 3413 [1, 2]).isSome
    ∧ (loadCode (N := Nat) (P := Nat) { magic := 3413, marshalLoads := fun d => some d.length } (fun _ d => some d.length) 3439 [1, 2]).isSome := by
  decide

/-- `findlinestarts(code)` takes `code.co_lines()` when the object has it: for a native 3.10
    code object those are CPython's ranges, for the portable Code310 they are xdis's; the same
    loop then runs over either.  Both give the same line starts. -/
theorem C07_lines_paths (first : Int) (tab : Bytes) (h : tab.length % 2 = 0) :
    (Lines.coLines310 first tab).map Lines.startsFromRanges =
    some (Spec.Lines.startsOfRanges none (Spec.Lines.coLines310 first tab)) := by
  rw [C05.C05_310 first tab h]
  simp [C05.C05_starts_of_ranges]

end XV.Props.C07
