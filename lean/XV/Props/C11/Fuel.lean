/-
C11 — the fuel of the unmarshaller Model is never the reason a load ends: for EVERY byte string,
`2·length + 4` units of fuel (what `loadCode` supplies) are never exhausted, because every nested
`r_object` consumes at least one byte and every loop iteration consumes a unit of fuel only together
with a byte.  So the outcome `MODEL-OUT-OF-FUEL` of `C11_class` cannot occur: the Model's answer is
always a Python outcome (a value, or one of the exception classes `except Exception` catches) — and
the recursion of the real reader is bounded by the length of the input.
-/
import XV.Model.LoadOutcome
import XV.Lemmas.Fuel
import XV.Lemmas.Unmarshal
import XV.Props.C11.Header
namespace XV.Props.C11.Fuel
open XV XV.Model XV.Model.Unmarshal XV.Fueled

/-- `XV.Fueled.Ok` written out for the monad `M` -/
structure Ok (B : Nat) (strict : Bool) (m : M α) : Prop where
  run : ∀ s : St, s.inp.length ≤ B → m.run s ≠ .error .outOfFuel ∧
    ∀ a s', m.run s = .ok (a, s') → (if strict then s'.inp.length + 1 ≤ s.inp.length else s'.inp.length ≤ s.inp.length)

/-- the same judgement as an instance of `XV.Fueled.Ok`, whose rules (`Ok.seq`, `Ok.ite`, … resolve there) the
    proofs below use (`d`: bytes consumed at least); the structure `Ok` above is the form `ok_flagsM` is stated in (`Ok.of`) -/
abbrev OkM (B d : Nat) (m : M α) : Prop :=
  Fueled.Ok (fun s : St => s.inp.length) Err.outOfFuel B d m

theorem Ok.of {B : Nat} {m : M α} (h : OkM B 0 m) : Ok B false m := ⟨h.run⟩

theorem ok_readN {B : Nat} (n : Int) : OkM B 0 (readN n) := by
  refine ⟨fun s _ => ?_⟩
  rw [readN_run]
  split <;> exact ⟨nofun, fun a s' h => by cases h; simp⟩

theorem ok_readExact {B : Nat} (k : Nat) : OkM B 0 (readExact k) :=
  Ok.seq (ok_readN _) fun _ => Ok.ite (Ok.ret _) (Ok.raise _ (by decide))

theorem ok_rI32 {B : Nat} : OkM B 0 rI32 := Ok.seq (ok_readExact 4) fun _ => Ok.ret _
theorem ok_rI16 {B : Nat} : OkM B 0 rI16 := Ok.seq (ok_readExact 2) fun _ => Ok.ret _
theorem ok_rU8 {B : Nat} : OkM B 0 rU8 := Ok.seq (ok_readExact 1) fun _ => Ok.ret _
theorem ok_rI64 {B : Nat} : OkM B 0 rI64 := Ok.seq (ok_readExact 8) fun _ => Ok.ret _
theorem ok_rU64 {B : Nat} : OkM B 0 rU64 := Ok.seq (ok_readExact 8) fun _ => Ok.ret _

theorem ok_rRef {B : Nat} (v : V) (save : Bool) : OkM B 0 (rRef v save) :=
  Ok.state fun s => by cases save <;> exact ⟨_, _, rfl, rfl⟩

theorem ok_rRefReserve {B : Nat} (v : V) (save : Bool) : OkM B 0 (rRefReserve v save) :=
  Ok.state fun s => by cases save <;> exact ⟨_, _, rfl, rfl⟩

theorem ok_rRefInsert {B : Nat} (v : V) (i : Option Nat) : OkM B 0 (rRefInsert v i) :=
  Ok.state fun s => by cases i <;> exact ⟨_, _, rfl, rfl⟩

theorem ok_rDigits {B : Nat} : ∀ (k j : Nat) (acc : Int), OkM B 0 (rDigits k j acc) := by
  intro k
  induction k with
  | zero => intro j acc; rw [rDigits]; exact Ok.ret _
  | succ k ih => intro j acc; rw [rDigits]; exact Ok.seq ok_rI16 (fun _ => ih _ _)

theorem ok_head {B : Nat} (g : Nat → Bytes → M α) (h : 1 ≤ B → ∀ x t, OkM (B - 1) 0 (g x t)) :
    OkM B 1 (do let b ← readN 1
                   match b with
                   | [] => throw Err.typeError
                   | x :: t => g x t) := by
  refine ⟨fun s hs => ?_⟩
  rw [readN_one_bind_run]
  split
  · exact ⟨nofun, nofun⟩
  · rename_i x rest hi
    have hlen : rest.length + 1 ≤ B := by rw [hi] at hs; exact hs
    obtain ⟨n, p⟩ := (h (by omega) x []).run { s with inp := rest } (Nat.le_sub_one_of_lt hlen)
    exact ⟨n, fun a s' hr => by have := p a s' hr; simp [hi] at this ⊢; omega⟩

theorem obj_step (c : Cfg) (f d : Nat) (bfs : Bool) (B : Nat) (hB : 2 * B + 1 ≤ f + 1)
    (hI : ∀ n B', 2 * B' + 2 ≤ f → OkM B' 0 (rItems c f d bfs n))
    (hD : ∀ B', 2 * B' + 2 ≤ f → OkM B' 0 (rDict c f d bfs))
    (hC : ∀ save B', 2 * B' + 2 ≤ f → OkM B' 0 (rCode c f d save)) :
    OkM B 1 (rObject c (f + 1) d bfs) := by
  rw [rObject]
  refine Ok.ite (Ok.raise _ (by decide)) (ok_head _ fun hB1 x t => ?_)
  have hI' := fun n => hI n (B - 1) (by omega)
  have hD' := hD (B - 1) (by omega)
  have hC' := fun save => hC save (B - 1) (by omega)
  -- whatever the type code, the arm it selects is a sequence of steps that are `Ok`
  extract_lets save ty
  clear_value ty
  split
  all_goals
    ok_steps [ok_rI32, ok_rU8, ok_rI64, ok_rU64, ok_readN _, ok_rDigits _ _ _, ok_rRef _ _, ok_rRefReserve _ _,
      ok_rRefInsert _ _, Ok.modify _ (fun _ => rfl), Ok.get, hI' _, hD', hC' _]

theorem items_step (c : Cfg) (f d : Nat) (bfs : Bool) (n B : Nat) (hB : 2 * B + 2 ≤ f + 1)
    (hO : ∀ d' B', 2 * B' + 1 ≤ f → OkM B' 1 (rObject c f d' bfs))
    (hI : ∀ n B', 2 * B' + 2 ≤ f → OkM B' 0 (rItems c f d bfs n)) :
    OkM B 0 (rItems c (f + 1) d bfs n) := by
  cases n with
  | zero =>
    rw [rItems]
    · exact Ok.ret _
    · omega
  | succ n =>
    rw [rItems]
    refine Ok.bind (hO _ B (by omega)) fun hB1 x => ?_
    exact Ok.seq (hI n (B - 1) (by omega)) (fun xs => Ok.ret _)

theorem dict_step (c : Cfg) (f d : Nat) (bfs : Bool) (B : Nat) (hB : 2 * B + 2 ≤ f + 1)
    (hO : ∀ d' B', 2 * B' + 1 ≤ f → OkM B' 1 (rObject c f d' bfs))
    (hD : ∀ B', 2 * B' + 2 ≤ f → OkM B' 0 (rDict c f d bfs)) :
    OkM B 0 (rDict c (f + 1) d bfs) := by
  have hbody : OkM B 0 (do
      let k ← rObject c f (d + 1) bfs
      let v ← rObject c f (d + 1) bfs
      let kvs ← rDict c f d bfs
      pure ((k, v) :: kvs)) := by
    refine Ok.bind (hO _ B (by omega)) fun _ k => ?_
    refine Ok.bind (hO _ (B - 1) (by omega)) fun _ v => ?_
    exact Ok.seq (hD (B - 1 - 1) (by omega)) (fun _ => Ok.ret _)
  refine ⟨fun s hs => ?_⟩
  rw [rDict_run]
  split
  · exact ⟨nofun, fun a s' hr => by cases hr; simp⟩
  · rename_i x rest hi
    split
    · exact ⟨nofun, fun a s' hr => by cases hr; simp [hi]⟩
    · exact hbody.run s hs

theorem ok_flagsM {B : Nat} (c : Cfg) : Ok B false (flagsM c) :=
  Ok.of (Ok.ite ok_rI32 (Ok.ite ok_rI16 (Ok.ret _)))

theorem code_step (c : Cfg) (f d : Nat) (save : Bool) (B : Nat) (hB : 2 * B + 2 ≤ f + 1)
    (hO : ∀ d' bfs B', 2 * B' + 1 ≤ f → OkM B' 1 (rObject c f d' bfs)) :
    OkM B 0 (rCode c (f + 1) d save) := by
  rw [rCode]
  have hobj : ∀ d' bfs, OkM B 0 (rObject c f d' bfs) := fun d' bfs => (hO d' bfs B (by omega)).weaken (Nat.zero_le 1)
  -- the integer fields are `rI32`, `rI16` or a constant, by version
  unfold argcountM posonlyM kwonlyM nlocalsM stacksizeM flagsM firstM
  ok_steps [ok_rI32, ok_rI16, hobj _ _, ok_rRefReserve _ _, ok_rRefInsert _ _]

theorem fuel_all (c : Cfg) : ∀ f,
    (∀ d bfs B, 2 * B + 1 ≤ f → OkM B 1 (rObject c f d bfs)) ∧
    (∀ d bfs n B, 2 * B + 2 ≤ f → OkM B 0 (rItems c f d bfs n)) ∧
    (∀ d bfs B, 2 * B + 2 ≤ f → OkM B 0 (rDict c f d bfs)) ∧
    (∀ d save B, 2 * B + 2 ≤ f → OkM B 0 (rCode c f d save)) := by
  intro f
  induction f with
  | zero =>
    refine ⟨fun d bfs B h => by omega, fun d bfs n B h => by omega, fun d bfs B h => by omega, fun d save B h => by omega⟩
  | succ f ih =>
    obtain ⟨iO, iI, iD, iC⟩ := ih
    exact ⟨fun d bfs B hB => obj_step c f d bfs B hB (iI d bfs) (iD d bfs) (iC d),
      fun d bfs n B hB => items_step c f d bfs n B hB (fun d' => iO d' bfs) (iI d bfs),
      fun d bfs B hB => dict_step c f d bfs B hB (fun d' => iO d' bfs) (iD d bfs),
      fun d save B hB => code_step c f d save B hB iO⟩

/-- C11_fuel: `load_code` on ANY byte string never ends for lack of fuel -/
theorem C11_fuel (magic : Nat) (version : List Nat) (graal : Bool) (limit : Nat) (data : Bytes) :
    loadCode magic version graal limit data ≠ .error .outOfFuel := by
  unfold loadCode
  intro hcontra
  dsimp only at hcontra
  split at hcontra
  · cases hcontra
  · rename_i e he
    cases hcontra
    exact (((fuel_all _ _).1 0 false data.length (by omega)).run _ (Nat.le_refl _)).1 he

open XV.Model.LoadOutcome in
theorem clean_ofUnmarshal (r : Except Err (V × Bytes)) (h : r ≠ .error .outOfFuel) : clean (ofUnmarshal r) = true := by
  unfold ofUnmarshal
  split
  · rfl
  · exact absurd rfl h
  · rfl

open XV.Model.LoadOutcome in
/-- C11_clean: C11_class without the Model's own escape hatch — whatever the bytes of the file,
    whatever the recursion limit and whatever the tables hold, the portable path of load_module
    either returns or raises ImportError (the native fast path is a parameter) -/
theorem C11_clean (tb : Header.Tables) (graal : List Nat) (limit hostMagic : Nat)
    (native : Bytes → Outcome) (data : Bytes) :
    clean (loadModule tb graal limit hostMagic native data) = true ∨
    (∃ b, loadModule tb graal limit hostMagic native data = native b) := by
  unfold loadModule
  split
  · exact Or.inl rfl
  split
  · exact Or.inl rfl
  · exact Or.inl rfl
  · rename_i c hh
    exact absurd hh (XV.Props.C11.header_clean tb data false (by omega) c)
  · split
    · exact Or.inr ⟨_, rfl⟩
    · split
      · exact Or.inl rfl
      · exact Or.inl (clean_ofUnmarshal _ (C11_fuel _ _ _ _ _))

end XV.Props.C11.Fuel
