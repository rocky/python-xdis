/-
C11 — the header reader's part in "corrupt or hostile bytecode files fail cleanly".
-/
import XV.Model.Header
namespace XV.Props.C11
open XV XV.Model

/-- the header reader lets no exception class other than ImportError out once four bytes
    are present (load_module guarantees 50) — for EVERY byte string and EVERY table state -/
theorem header_clean (tb : Header.Tables) (data : Bytes) (nm : Bool) (h : 4 ≤ data.length) :
    ∀ c, Header.load tb data nm ≠ .escaped c := by
  intro c
  unfold Header.load
  rw [if_neg (by omega)]
  -- the magic numbers stay local names, so each split works on a small term;
  -- every branch that is left ends in a constructor other than `escaped`
  extract_lets
  repeat' split
  all_goals exact nofun

end XV.Props.C11
