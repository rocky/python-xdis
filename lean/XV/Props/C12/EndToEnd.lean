/-
C12 — "faithful to the instruction stream", end to end: the rows of a classic (or bytes) listing are the
instruction records CPython's own `dis` reports for the code string — composed from the listing loop
(C12_classic_noncache / C12_faithful) and the record theorems C20_instructions / C20_instructions_311
(which rest on C02 and C04).
-/
import XV.Props.C12
import XV.Props.C20.Instructions
namespace XV.Props.C12.EndToEnd
open XV XV.Model XV.Model.Listing XV.Model.Decode XV.Spec.Dis XV.Props.C02 XV.Props.C12 XV.Props.C20.Instructions

/-- a record as the listing loop sees it (`has311`: opcode 0 is CACHE from 3.11 on; SET_LINENO is gone since 2.3) -/
def liOf (has311 : Bool) (r : IRec) : LI :=
  { offset := r.offset, opcode := r.opcode, arg := r.arg, argval := 0, startsLine := r.startsLine.map Int.toNat,
    jt := r.isJumpTarget, isSetLineno := false, isExtArg := false, isCache := has311 && r.opcode == 0, isReserveFast := false }

theorem liOf_noSetLineno (b : Bool) (recs : List IRec) : ∀ i ∈ recs.map (liOf b), i.isSetLineno = false := by
  intro i hi
  obtain ⟨r, _, rfl⟩ := List.mem_map.1 hi
  rfl

/-- 3.11–3.13: the rows of the classic listing are exactly CPython's records, in order, each once -/
theorem C12_classic_cpython (t : OpTable) (ht : t ∈ Gen.allTables) (d : DisTbl) (hd : disTblFor t = some d)
    (h11 : verGe d.version 3 11 = true) (code : Bytes) (hbytes : IsBytes code) (hck : CacheOk t d code) (hc : CarryOk t code)
    (starts : List (Nat × Int)) (excTargets : List Int) (sl : Bool) (recs : List IRec)
    (hx : xdisInstructions t code starts excTargets = some recs) :
    ∃ cp, disInstructions d code starts excTargets = some cp ∧
      rows (listing .classic sl (recs.map (liOf true))) = (cp.map (liOf true)).map toRow := by
  have h := C20_instructions_311 t ht d hd h11 code hbytes hck hc starts excTargets
  rw [hx] at h
  refine ⟨_, h.symm, ?_⟩
  rw [C12_classic_noncache sl _ (liOf_noSetLineno true recs), List.filter_map]
  rfl

/-- versions before 3.11 (`liOf` marks no record as SET_LINENO, which is right from 2.3 on):
    classic and bytes listings show exactly CPython's records -/
theorem C12_rows_cpython (t : OpTable) (ht : t ∈ Gen.allTables) (d : DisTbl) (hd : disTblFor t = some d)
    (h11 : verGe d.version 3 11 = false) (code : Bytes) (hbytes : IsBytes code) (hc : CarryOk t code)
    (starts : List (Nat × Int)) (excTargets : List Int) (sl : Bool) (recs : List IRec)
    (hx : xdisInstructions t code starts excTargets = some recs) (fmt : Fmt) (hf : fmt = .classic ∨ fmt = .bytes) :
    disInstructions d code starts excTargets = some recs ∧
      rows (listing fmt sl (recs.map (liOf false))) = (recs.map (liOf false)).map toRow := by
  have h := C20_instructions t ht d hd h11 code hbytes hc starts excTargets
  rw [hx] at h
  refine ⟨h.symm, ?_⟩
  -- no record is a CACHE entry before 3.11, so every format keeps them all
  rw [C12_faithful fmt (by rcases hf with rfl | rfl <;> decide) sl _ (liOf_noSetLineno false recs), List.filter_eq_self.2]
  intro i hi
  obtain ⟨r, _, rfl⟩ := List.mem_map.1 hi
  rfl

end XV.Props.C12.EndToEnd
