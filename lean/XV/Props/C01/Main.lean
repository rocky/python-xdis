/-
C01 — whole-payload theorem, a corollary of the unmarshaller simulation (Props/C10/Sim.lean).
-/
import XV.Props.C10.Sim
namespace XV.Props.C01.Main
open XV XV.Model.Unmarshal XV.Spec.Marshal XV.Props.C10.Sim

/-- C01_main — whole payload of a bytecode file (a code object): if marshal.c (with the
    well-formedness guards on) loads `data` to `pv` leaving `rest` unread, then xdis's `load_code`
    returns `pv` as xdis reads it and leaves exactly the same `rest` — every field of every nested
    code object, every constant by kind and value, no byte more and no byte less. -/
theorem C01_main (magic : Nat) (ver : List Nat) (limit : Nat) (data : Bytes) (pv : V) (rest : Bytes)
    (hbytes : AllBytes data) (hlimit : 2000 ≤ limit)
    (hm : magic ≠ 3400 ∧ magic ≠ 3401 ∧ magic ≠ 3410 ∧ magic ≠ 3411)
    (hcode : ∃ b tl, data = b :: tl ∧ b &&& 127 = 99)
    (h : loadsStrict ver data = .ok (pv, rest)) :
    loadCode magic ver false limit data =
      .ok (portV { magic := magic, version := ver, marshalVersion := marshalVersionOf ver magic,
                   isGraal := false, depthLimit := limit } true pv, rest) := by
  let c : Cfg := { magic := magic, version := ver, marshalVersion := marshalVersionOf ver magic,
                   isGraal := false, depthLimit := limit }
  let sc : SCfg := { strict := true, maxDepth := 2000 }
  have hc : CfgOK c sc := ⟨rfl, hlimit, hm.1, hm.2.1, hm.2.2.1, hm.2.2.2, rfl⟩
  obtain ⟨b, tl, hdata, hb⟩ := hcode
  have hI : Inv (era ver) { inp := data, refs := [], strs := [] } { inp := data, refs := [], strs := [] } :=
    ⟨rfl, ⟨rfl, fun i v h => nomatch h⟩, fun _ => ⟨rfl, fun v hv => nomatch hv⟩, hbytes⟩
  -- the Spec's top-level `obj` against `r_object` one level up, read with bytes_for_s = True
  have hL := lock_obj c sc (era ver) (2 * data.length + 3) 0 true false (rObject c (2 * data.length + 4) 0 true)
    ((sim_all c sc hc (era ver) rfl _).1 _ 1 0 true false (by omega) (by omega) (ctx_code c))
  unfold loadsStrict loadsWith at h
  split at h
  · rename_i v s1 hrun
    cases h
    obtain ⟨w, sm', hm', rfl, hI'⟩ := hL _ _ _ _ hI hrun
    -- a code object is read the same way with bytes_for_s = False, as `load_code` passes it
    have hany := rObject_code_any c (2 * data.length + 3) 0 false { inp := data, refs := [], strs := [] } b tl hdata hb
    unfold loadCode
    dsimp only
    rw [hany, hm', hI'.1]
  · cases h

/-! non-vacuity: the hypotheses are met by what the compilers write (kernel-evaluated on the real
    Spec): `marshal.dumps(compile('x=(1,b"ab","s")','f','exec'))` of CPython 3.8.18 and
    `marshal.dumps(compile('x=(1,"ab")','f','exec'))` of CPython 2.7.18 (interned 't' strings and
    an 'R' back-reference) load under the strict guards with nothing left over -/
def sample38 : Bytes :=
  [99, 0, 0, 0, 0, 0, 0, 0, 0, 0, 0, 0, 0, 0, 0, 0, 0, 1, 0, 0, 0, 64, 0, 0, 0, 115, 8, 0, 0, 0, 100, 0, 90, 0, 100, 1,
   83, 0, 41, 2, 41, 3, 233, 1, 0, 0, 0, 115, 2, 0, 0, 0, 97, 98, 218, 1, 115, 78, 41, 1, 218, 1, 120, 169, 0, 114, 3,
   0, 0, 0, 114, 3, 0, 0, 0, 218, 1, 102, 218, 8, 60, 109, 111, 100, 117, 108, 101, 62, 1, 0, 0, 0, 243, 0, 0, 0, 0]
def sample27 : Bytes :=
  [99, 0, 0, 0, 0, 0, 0, 0, 0, 2, 0, 0, 0, 64, 0, 0, 0, 115, 10, 0, 0, 0, 100, 3, 0, 90, 0, 0, 100, 2, 0, 83, 40, 4, 0,
   0, 0, 105, 1, 0, 0, 0, 116, 2, 0, 0, 0, 97, 98, 78, 40, 2, 0, 0, 0, 105, 1, 0, 0, 0, 82, 0, 0, 0, 0, 40, 1, 0, 0, 0,
   116, 1, 0, 0, 0, 120, 40, 0, 0, 0, 0, 40, 0, 0, 0, 0, 40, 0, 0, 0, 0, 116, 1, 0, 0, 0, 102, 116, 8, 0, 0, 0, 60, 109,
   111, 100, 117, 108, 101, 62, 1, 0, 0, 0, 116, 0, 0, 0, 0]

example : (loadsStrict [3, 8] sample38).toOption.map (·.2) = some [] ∧ AllBytes sample38 ∧
    (loadsStrict [2, 7] sample27).toOption.map (·.2) = some [] ∧ AllBytes sample27 := by decide +kernel

/-- on the same inputs the Model succeeds too, with nothing left over -/
example : (loadCode 3413 [3, 8] false 2000 sample38).toOption.map (·.2) = some [] ∧
    (loadCode 62211 [2, 7] false 2000 sample27).toOption.map (·.2) = some [] := by decide +kernel

end XV.Props.C01.Main
