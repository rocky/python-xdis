/-
C17 — whole-table theorem for the 3.11+ location table: for EVERY list of well-formed entries
(short, one-line, no-column, long and no-location forms, any varint length, negative line
deltas), xdis's `parse_positions` applied to the encoded table returns exactly one
(line, end line, column, end column) per code unit as the format defines them.
-/
import XV.Props.C17
namespace XV.Props.C17.Positions
open XV XV.Model.Lines XV.Spec.Lines XV.Props.C17 XV.Bits

theorem firstByte_bits (code : Nat) (hc : code < 16) (u : Nat) (h1 : 1 ≤ u) (h2 : u ≤ 8) :
    (firstByte code u &&& 128 = 128 ∧ (firstByte code u &&& 7) + 1 = u ∧ (firstByte code u >>> 3) &&& 15 = code) := by
  simp only [firstByte, and_128, and_7, and_15, Nat.shiftRight_eq_div_pow]; omega

theorem short_bits (c hi lo : Nat) (hhi : hi < 8) (hlo : lo < 16) :
    ((hi * 16 + lo) &&& 128 = 0 ∧ ((c <<< 3) ||| ((hi * 16 + lo) >>> 4)) = c * 8 + hi ∧ (hi * 16 + lo) &&& 15 = lo) := by
  rw [← Nat.shiftLeft_add_eq_or_of_lt (by simp only [Nat.shiftRight_eq_div_pow]; omega)]
  simp only [and_128, and_15, Nat.shiftRight_eq_div_pow, Nat.shiftLeft_eq]; omega

/-- what xdis's decoder should produce for an entry -/
def toPE : LocEntry → PosEntry
  | .short u c hi lo => { lineDelta := 0, numLines := 0, codeDelta := u * 2, column := ((c * 8 + hi : Nat) : Int),
                          endColumn := ((c * 8 + hi + lo : Nat) : Int), noLine := false }
  | .oneLine u k col ec => { lineDelta := k, numLines := 0, codeDelta := u * 2, column := col, endColumn := ec, noLine := false }
  | .noCol u d => { lineDelta := d, numLines := 0, codeDelta := u * 2, column := -1, endColumn := -1, noLine := false }
  | .long u d ed c1 ec1 => { lineDelta := d, numLines := ed, codeDelta := u * 2, column := (c1 : Int) - 1,
                             endColumn := (ec1 : Int) - 1, noLine := false }
  | .none u => { lineDelta := 0, numLines := 0, codeDelta := u * 2, column := -1, endColumn := -1, noLine := true }

theorem decode_entry (e : LocEntry) (hwf : e.WF) (tail : Bytes) :
    ∃ cb rest, encodeEntry e ++ tail = cb :: rest ∧ decodePosEntry cb rest = .ok (toPE e, tail) := by
  cases e with
  | short u c hi lo =>
    obtain ⟨h1, h2, h3, h4, h5⟩ := hwf
    obtain ⟨b1, b2, b3⟩ := firstByte_bits c (by omega) u h1 h2
    obtain ⟨s1, s2, s3⟩ := short_bits c hi lo h4 h5
    refine ⟨_, _, rfl, ?_⟩
    obtain ⟨c15, c14, c13, c10⟩ : ¬ c = 15 ∧ ¬ c = 14 ∧ ¬ c = 13 ∧ ¬ (c = 10 ∨ c = 11 ∨ c = 12) := by omega
    simp only [decodePosEntry, b1, b2, b3, c15, c14, c13, c10, if_false]
    simp [s1, s2, s3, toPE]
  | oneLine u k col ec =>
    obtain ⟨h1, h2, h3, -, -⟩ := hwf
    obtain ⟨b1, b2, b3⟩ := firstByte_bits (10 + k) (by omega) u h1 h2
    refine ⟨_, _, rfl, ?_⟩
    obtain ⟨c15, c14, c13, c10⟩ : ¬ 10 + k = 15 ∧ ¬ 10 + k = 14 ∧ ¬ 10 + k = 13 ∧ (10 + k = 10 ∨ 10 + k = 11 ∨ 10 + k = 12) := by
      omega
    simp only [decodePosEntry, b1, b2, b3, c15, c14, c13, c10, if_true, if_false]
    simp [toPE]; omega
  | noCol u d =>
    obtain ⟨b1, b2, b3⟩ := firstByte_bits 13 (by omega) u hwf.1 hwf.2
    exact ⟨_, _, rfl, by simp [decodePosEntry, b1, b2, b3, C17_svarint, toPE]⟩
  | long u d ed c1 ec1 =>
    obtain ⟨b1, b2, b3⟩ := firstByte_bits 14 (by omega) u hwf.1 hwf.2
    refine ⟨_, _, rfl, ?_⟩
    simp [decodePosEntry, b1, b2, b3, C17_svarint, C17_varint_le, toPE, List.append_assoc]
  | none u =>
    obtain ⟨b1, b2, b3⟩ := firstByte_bits 15 (by omega) u hwf.1 hwf.2
    exact ⟨_, _, rfl, by simp [decodePosEntry, b1, b2, b3, toPE]⟩

theorem encodeEntry_length (e : LocEntry) : 1 ≤ (encodeEntry e).length := by
  cases e <;> simp [encodeEntry]

theorem posEntries_all (es : List LocEntry) (hwf : ∀ e ∈ es, e.WF) (fuel : Nat) (hf : es.length < fuel) :
    posEntries fuel (encodeLoc es) = .ok (es.map toPE) := by
  induction es generalizing fuel with
  | nil => cases fuel <;> rfl
  | cons e es ih =>
    obtain ⟨fuel, rfl⟩ : ∃ f, fuel = f + 1 := ⟨fuel - 1, by omega⟩
    obtain ⟨cb, rest, henc, hdec⟩ := decode_entry e (hwf e (by simp)) (encodeLoc es)
    rw [encodeLoc, List.flatMap_cons, ← encodeLoc, henc, posEntries, hdec]
    simp only []
    rw [ih (fun x hx => hwf x (by simp [hx])) fuel (by simpa using hf)]
    rfl

theorem colOpt_col1 (c1 : Nat) : colOpt ((c1 : Int) - 1) = colOf c1 := by
  unfold colOpt colOf; split <;> split <;> first | rfl | omega

theorem expand_eq (es : List LocEntry) (line : Int) :
    expandPositions line (es.map toPE) = unitPositions line es := by
  induction es generalizing line with
  | nil => rfl
  | cons e es ih =>
    cases e <;> simp [expandPositions, toPE, unitPositions, ih, colOpt_col1] <;> simp [colOpt] <;> omega

/-- for every list of well-formed location entries and every first line,
    `Code311.co_positions()` over the encoded table is the format's per-unit position list -/
theorem C17_positions (first : Int) (es : List LocEntry) (hwf : ∀ e ∈ es, e.WF) :
    positions311 first (encodeLoc es) = .ok (unitPositions first es) := by
  rw [positions311, posEntries_all es hwf _ (show es.length < (encodeLoc es).length + 1 from
    Nat.lt_add_one_of_le (length_le_flatMap _ encodeEntry_length es))]
  simp only [Except.map, expand_eq]

/-- non-vacuity: `WF` holds of a table with all five forms, a three-byte negative delta and a two-byte column -/
example : ∀ e ∈ [LocEntry.short 2 3 5 9, .oneLine 1 2 17 40, .noCol 8 (-3000), .long 3 70000 2 0 200, .none 4], e.WF := by
  intro e he
  simp at he
  rcases he with rfl | rfl | rfl | rfl | rfl <;> simp [LocEntry.WF]

end XV.Props.C17.Positions
