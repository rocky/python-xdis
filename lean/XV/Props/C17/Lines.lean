/-
C17 — whole-table theorem for the line of every code unit: for EVERY list of well-formed location
entries, expanding xdis's `co_lines()` ranges (`parse_linetable`, with its merging of equal
neighbours) gives exactly the line the format assigns to each code unit — `None` for no-location
entries, running line for the others, negative and multi-byte deltas included.
-/
import XV.Props.C17.Positions
namespace XV.Props.C17.Lines
open XV XV.Model.Lines XV.Spec.Lines XV.Props.C17 XV.Props.C17.Positions XV.Bits

theorem ltEntries_cons (b : Nat) (rest : Bytes) :
    ltEntries (b :: rest) =
      if b &&& 128 ≠ 0 then
        { lineDelta := (getLineDelta b rest).1, codeDelta := ((b &&& 7) + 1) * 2, noLine := (b >>> 3) = 0x1F }
          :: ltEntries (getLineDelta b rest).2
      else ltEntries rest := by
  -- `ltEntries` matches on `h : nextCodeByte bs`, which can be split but not rewritten
  have hn : nextCodeByte (b :: rest) = if b &&& 128 ≠ 0 then some (b, rest) else nextCodeByte rest := rfl
  rw [ltEntries]
  by_cases hb : b &&& 128 ≠ 0
  · rw [if_pos hb]; split <;> simp_all
  · rw [if_neg hb, ltEntries]; split <;> split <;> simp_all

theorem ltEntries_skip (junk : Bytes) (hj : ∀ b ∈ junk, b < 128) (tail : Bytes) :
    ltEntries (junk ++ tail) = ltEntries tail := by
  induction junk with
  | nil => rfl
  | cons j js ih =>
    have := hj j (by simp)
    rw [List.cons_append, ltEntries_cons, and_128, if_neg (by omega)]
    exact ih (fun b hb => hj b (by simp [hb]))

theorem encVarint_lt (n : Nat) : ∀ b ∈ encVarint n, b < 128 := by
  induction n using Nat.strongRecOn with
  | ind n ih =>
    intro b hb
    rw [encVarint] at hb
    split at hb
    · simp at hb; omega
    · rcases List.mem_cons.mp hb with rfl | hb
      · omega
      · exact ih (n / 64) (by omega) b hb

theorem ltEntries_firstByte (code u : Nat) (hc : code < 16) (h1 : 1 ≤ u) (h2 : u ≤ 8) (rest : Bytes) :
    ltEntries (firstByte code u :: rest) =
      { lineDelta := (getLineDelta (firstByte code u) rest).1, codeDelta := u * 2, noLine := code = 15 }
        :: ltEntries (getLineDelta (firstByte code u) rest).2 := by
  obtain ⟨b1, b2, _⟩ := firstByte_bits code hc u h1 h2
  have b4 : firstByte code u >>> 3 = 16 + code := by simp only [firstByte, Nat.shiftRight_eq_div_pow]; omega
  rw [ltEntries_cons, if_pos (by omega), b2, b4]
  simp; omega

theorem getLineDelta_firstByte (code u : Nat) (hc : code < 16) (h1 : 1 ≤ u) (h2 : u ≤ 8) (rest : Bytes) :
    getLineDelta (firstByte code u) rest =
      if code = 13 ∨ code = 14 then scanSignedVarint rest
      else if code = 11 then (1, rest) else if code = 12 then (2, rest) else (0, rest) := by
  rw [getLineDelta, (firstByte_bits code hc u h1 h2).2.2]
  by_cases h15 : code = 15
  · subst h15; rfl
  · by_cases h10 : code = 10
    · subst h10; rfl
    · simp only [h15, h10, if_false]

def toLT : LocEntry → LTEntry
  | .short u .. => { lineDelta := 0, codeDelta := u * 2, noLine := false }
  | .oneLine u k .. => { lineDelta := k, codeDelta := u * 2, noLine := false }
  | .noCol u d => { lineDelta := d, codeDelta := u * 2, noLine := false }
  | .long u d .. => { lineDelta := d, codeDelta := u * 2, noLine := false }
  | .none u => { lineDelta := 0, codeDelta := u * 2, noLine := true }

/-- `parse_linetable` does not decode the bytes `_get_line_delta` leaves behind: they carry no marker and are skipped -/
theorem ltEntries_entry (e : LocEntry) (hwf : e.WF) (tail : Bytes) :
    ltEntries (encodeEntry e ++ tail) = toLT e :: ltEntries tail := by
  cases e with
  | short u c hi lo =>
    obtain ⟨h1, h2, h3, h4, h5⟩ := hwf
    rw [encodeEntry, List.cons_append, ltEntries_firstByte c u (by omega) h1 h2,
      getLineDelta_firstByte c u (by omega) h1 h2, if_neg (by omega), if_neg (by omega), if_neg (by omega),
      ltEntries_skip [hi * 16 + lo] (by simp; omega)]
    simp [toLT]; omega
  | oneLine u k col ec =>
    obtain ⟨h1, h2, h3, h4, h5⟩ := hwf
    rw [encodeEntry, List.cons_append, ltEntries_firstByte (10 + k) u (by omega) h1 h2,
      getLineDelta_firstByte (10 + k) u (by omega) h1 h2, if_neg (by omega)]
    obtain rfl | rfl | rfl : k = 0 ∨ k = 1 ∨ k = 2 := by omega
    all_goals simpa [toLT] using ltEntries_skip [col, ec] (by simp; omega) tail
  | noCol u d =>
    rw [encodeEntry, List.cons_append, ltEntries_firstByte 13 u (by omega) hwf.1 hwf.2,
      getLineDelta_firstByte 13 u (by omega) hwf.1 hwf.2, if_pos (by omega), C17_svarint]
    rfl
  | long u d ed c1 ec1 =>
    rw [encodeEntry, List.cons_append, ltEntries_firstByte 14 u (by omega) hwf.1 hwf.2,
      getLineDelta_firstByte 14 u (by omega) hwf.1 hwf.2, if_pos (by omega)]
    simp only [List.append_assoc, C17_svarint]
    rw [← List.append_assoc, ← List.append_assoc, ltEntries_skip _ (by
      simp only [List.mem_append]; rintro b ((hb | hb) | hb) <;> exact encVarint_lt _ b hb)]
    rfl
  | none u =>
    rw [encodeEntry, List.cons_append, ltEntries_firstByte 15 u (by omega) hwf.1 hwf.2,
      getLineDelta_firstByte 15 u (by omega) hwf.1 hwf.2, if_neg (by omega)]
    rfl

theorem ltEntries_all (es : List LocEntry) (hwf : ∀ e ∈ es, e.WF) :
    ltEntries (encodeLoc es) = es.map toLT := by
  induction es with
  | nil => rw [encodeLoc, List.flatMap_nil, ltEntries]; rfl
  | cons e es ih =>
    rw [encodeLoc, List.flatMap_cons, ← encodeLoc, ltEntries_entry e (hwf e (by simp)),
      ih (fun x hx => hwf x (by simp [hx]))]
    rfl

theorem unitLines_cons (line : Int) (e : LocEntry) (rest : List LocEntry) :
    unitLines line (e :: rest) =
      List.replicate e.units (if (toLT e).noLine then none else some (line + (toLT e).lineDelta))
        ++ unitLines (line + (toLT e).lineDelta) rest := by
  cases e <;> simp [unitLines, toLT, LocEntry.units]

theorem toLT_codeDelta (e : LocEntry) : (toLT e).codeDelta = e.units * 2 := by cases e <;> rfl

/-- merging equal neighbours does not change the line of any code unit; the open range holds `n` units -/
theorem expand_merge (es : List LocEntry) (cs n : Nat) (line : Int) (nl : Bool) :
    expandRanges (ltMerge cs (cs + n * 2) line nl (es.map toLT)) =
      List.replicate n (if nl then none else some line) ++ unitLines line es := by
  induction es generalizing cs n line nl with
  | nil => simp [ltMerge, expandRanges, unitLines]
  | cons e es ih =>
    rw [List.map_cons, ltMerge, unitLines_cons, toLT_codeDelta]
    split
    · rw [expandRanges, ih, Nat.add_sub_cancel_left, Nat.mul_div_cancel _ (by decide)]
    · next h =>
      obtain ⟨hz, hn⟩ : (toLT e).lineDelta = 0 ∧ (toLT e).noLine = nl := by simpa using h
      rw [Nat.add_assoc, ← Nat.add_mul, ih, hz, hn, Int.add_zero, ← List.append_assoc, List.replicate_append_replicate]

/-- for every list of well-formed location entries and every first line, the ranges
    `Code311.co_lines()` reports, expanded to one line per code unit, are the format's -/
theorem C17_lines (first : Int) (es : List LocEntry) (hwf : ∀ e ∈ es, e.WF) :
    expandRanges (coLines311 first (encodeLoc es)) = unitLines first es := by
  rw [coLines311, ltEntries_all es hwf]
  cases es with
  | nil => rfl
  | cons e es => rw [unitLines_cons, ← expand_merge es 0, Nat.zero_add, ← toLT_codeDelta]; rfl

end XV.Props.C17.Lines
