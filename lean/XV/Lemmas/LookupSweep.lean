/-
`∀ (k, c) ∈ rows, f k (tbl.lookup k) c` decided in one pass when `tbl` and `rows` are sorted by key:
a lookup per row walks the table again for every row, which is what a kernel sweep over two
generated tables of a thousand rows each pays for.
-/
namespace XV

def dropLt (k : Nat) : List (Nat × β) → List (Nat × β)
  | [] => []
  | e :: tbl => if e.1 < k then dropLt k tbl else e :: tbl

def ascending : List (Nat × α) → Bool
  | a :: b :: l => a.1 ≤ b.1 && ascending (b :: l)
  | _ => true

/-- each row finds its entry at the front of what the rows before it left of the table -/
def lookupSweep (f : Nat → Option β → γ → Bool) : List (Nat × β) → List (Nat × γ) → Bool
  | _, [] => true
  | tbl, (k, c) :: rows =>
    f k ((dropLt k tbl).head?.bind fun e => if e.1 = k then some e.2 else none) c &&
      lookupSweep f (dropLt k tbl) rows

theorem ascending_cons {a : Nat × α} {l : List (Nat × α)} (h : ascending (a :: l) = true) :
    ascending l = true ∧ ∀ r ∈ l, a.1 ≤ r.1 := by
  induction l generalizing a with
  | nil => exact ⟨rfl, fun _ hr => by cases hr⟩
  | cons b l ih =>
    simp only [ascending, Bool.and_eq_true, decide_eq_true_eq] at h
    refine ⟨h.2, fun r hr => ?_⟩
    rcases List.mem_cons.mp hr with rfl | hr
    · exact h.1
    · exact Nat.le_trans h.1 ((ih h.2).2 r hr)

theorem lookup_cons_ne {k k' : Nat} (b : β) (tbl : List (Nat × β)) (h : k ≠ k') :
    ((k', b) :: tbl).lookup k = tbl.lookup k := by
  rw [List.lookup_cons, beq_false_of_ne h]

theorem lookup_dropLt (k k' : Nat) (h : k ≤ k') :
    ∀ tbl : List (Nat × β), (dropLt k tbl).lookup k' = tbl.lookup k'
  | [] => rfl
  | (a, b) :: tbl => by
    unfold dropLt
    split
    · rw [lookup_dropLt k k' h tbl, lookup_cons_ne b tbl (by simp at *; omega)]
    · rfl

theorem ascending_dropLt (k : Nat) :
    ∀ tbl : List (Nat × β), ascending tbl = true → ascending (dropLt k tbl) = true
  | [], _ => rfl
  | e :: tbl, h => by
    unfold dropLt
    split
    · exact ascending_dropLt k tbl (ascending_cons h).1
    · exact h

theorem lookup_none_of_lt {k : Nat} : ∀ {tbl : List (Nat × β)}, (∀ r ∈ tbl, k < r.1) → tbl.lookup k = none
  | [], _ => rfl
  | (a, b) :: tbl, h => by
    rw [lookup_cons_ne b tbl (Nat.ne_of_lt (h (a, b) (by simp))),
      lookup_none_of_lt fun r hr => h r (by simp [hr])]

theorem head_dropLt (k : Nat) : ∀ tbl : List (Nat × β), ascending tbl = true →
    ((dropLt k tbl).head?.bind fun e => if e.1 = k then some e.2 else none) = tbl.lookup k
  | [], _ => rfl
  | (a, b) :: tbl, h => by
    unfold dropLt
    split
    · rw [head_dropLt k tbl (ascending_cons h).1, lookup_cons_ne b tbl (by simp at *; omega)]
    · by_cases hek : a = k
      · simp [hek]
      · -- the front key is above `k`, and so is every key behind it
        have : ∀ r ∈ tbl, k < r.1 := fun r hr => by have := (ascending_cons h).2 r hr; simp at *; omega
        rw [lookup_cons_ne b tbl (Ne.symm hek), lookup_none_of_lt this]
        simp [hek]

theorem lookupSweep_sound {f : Nat → Option β → γ → Bool} :
    ∀ {rows : List (Nat × γ)} {tbl : List (Nat × β)},
    ascending tbl = true → ascending rows = true → lookupSweep f tbl rows = true →
    ∀ r ∈ rows, f r.1 (tbl.lookup r.1) r.2 = true
  | [], _, _, _, _, r, hr => by cases hr
  | (k, c) :: rows, tbl, ht, hr, h, r, hmem => by
    simp only [lookupSweep, Bool.and_eq_true] at h
    rcases List.mem_cons.mp hmem with rfl | hmem
    · rw [← head_dropLt k tbl ht]; exact h.1
    · rw [← lookup_dropLt k r.1 ((ascending_cons hr).2 r hmem) tbl]
      exact lookupSweep_sound (ascending_dropLt k tbl ht) (ascending_cons hr).1 h.2 r hmem

theorem lookup_enum : ∀ (l : List α) (i k n : Nat), l.length ≤ n →
    ((List.range' k n).zip l).lookup (k + i) = l[i]?
  | [], _, _, _, _ => by simp
  | a :: l, i, k, n + 1, h => by
    simp only [List.range'_succ, List.zip_cons_cons]
    cases i with
    | zero => simp
    | succ i =>
      rw [lookup_cons_ne _ _ (by omega), show k + (i + 1) = (k + 1) + i by omega,
        lookup_enum l i (k + 1) n (by simpa using h)]
      simp

/-- the entries for `a` and `c` alone answer lookups of `a` and `c` as the whole list does -/
theorem lookup_excerpt (l : List (Nat × β)) (a c k : Nat) (hk : k = a ∨ k = c) :
    (((l.lookup a).map (a, ·)).toList ++ ((l.lookup c).map (c, ·)).toList).lookup k = l.lookup k := by
  by_cases hac : a = c
  · subst hac; have : k = a := hk.elim id id
    subst this; cases l.lookup k <;> simp
  · have h1 : (a == c) = false := beq_false_of_ne hac
    have h2 : (c == a) = false := beq_false_of_ne (Ne.symm hac)
    rcases hk with rfl | rfl <;> cases l.lookup k <;> cases l.lookup _ <;> simp [List.lookup_cons, h1, h2]

end XV
