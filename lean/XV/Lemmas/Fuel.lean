/-
Fuel accounting for a reader in `StateT σ (Except ε)` whose recursion is driven by a fuel argument:
`len s` is the length of the unread input in state `s`, `oof` the error that stands for "fuel
exhausted".  The judgement `Ok len oof B d m` is preserved by `>>=`, `if` and `match`, so it
holds of a `do` block as soon as it holds of its steps (`ok_steps`).  The Model's unmarshaller (C11)
and the fast loader (C14) instantiate it.
-/
import XV.Lemmas.Run
namespace XV.Fueled
variable {σ ε α β : Type} {len : σ → Nat} {oof : ε} {B d d' : Nat}

/-- with at most `B` bytes unread `m` does not end in `oof`, and it consumes at least `d` bytes -/
structure Ok (len : σ → Nat) (oof : ε) (B d : Nat) (m : StateT σ (Except ε) α) : Prop where
  run : ∀ s : σ, len s ≤ B → m.run s ≠ .error oof ∧ ∀ a s', m.run s = .ok (a, s') → len s' + d ≤ len s

namespace Ok
variable {m : StateT σ (Except ε) α} {g : α → StateT σ (Except ε) β}

theorem weaken (h : Ok len oof B d m) (hd : d' ≤ d) : Ok len oof B d' m :=
  ⟨fun s hs => ⟨(h.run s hs).1, fun a s' hr => by have := (h.run s hs).2 a s' hr; omega⟩⟩

/-- the `d` bytes the first step consumes are not there for the rest -/
theorem bind (h1 : Ok len oof B d m) (h2 : d ≤ B → ∀ a, Ok len oof (B - d) 0 (g a)) (hd : d' ≤ d := by omega) :
    Ok len oof B d' (m >>= g) := by
  refine ⟨fun s hs => ?_⟩
  obtain ⟨n1, p1⟩ := h1.run s hs
  rw [Run.bind]
  cases hm : m.run s <;> dsimp only
  case error er => exact ⟨fun h => by cases h; exact n1 hm, fun _ _ hr => nomatch hr⟩
  case ok r =>
    have hl := p1 r.1 r.2 hm
    obtain ⟨n2, p2⟩ := (h2 (by omega) r.1).run r.2 (by omega)
    exact ⟨n2, fun b s' hr => by have := p2 b s' hr; omega⟩

theorem seq (h1 : Ok len oof B 0 m) (h2 : ∀ a, Ok len oof B 0 (g a)) : Ok len oof B 0 (m >>= g) :=
  bind h1 (fun _ => h2) (Nat.le_refl 0)

theorem state (h : ∀ s, ∃ a s', m.run s = .ok (a, s') ∧ len s' = len s) : Ok len oof B 0 m := by
  refine ⟨fun s _ => ?_⟩
  obtain ⟨a, s', hr, hi⟩ := h s
  rw [hr]
  exact ⟨fun h => (nomatch h), fun _ _ hr2 => by cases hr2; exact Nat.le_of_eq hi⟩

theorem ret (a : α) : Ok len oof B 0 (pure a : StateT σ (Except ε) α) := state fun s => ⟨a, s, rfl, rfl⟩

theorem get : Ok len oof B 0 (MonadState.get : StateT σ (Except ε) σ) := state fun s => ⟨s, s, rfl, rfl⟩

theorem modify (f : σ → σ) (h : ∀ s, len (f s) = len s) :
    Ok len oof B 0 (_root_.modify f : StateT σ (Except ε) PUnit) := state fun s => ⟨⟨⟩, f s, rfl, h s⟩

theorem raise (e : ε) (he : e ≠ oof) : Ok len oof B d (throw e : StateT σ (Except ε) α) :=
  ⟨fun _ _ => ⟨fun h => he (Except.error.inj h), fun _ _ hr => nomatch hr⟩⟩

theorem ite {c : Prop} [Decidable c] {m1 m2 : StateT σ (Except ε) α} (h1 : Ok len oof B d m1)
    (h2 : Ok len oof B d m2) : Ok len oof B d (if c then m1 else m2) := by
  split <;> assumption

end Ok

/-- `Ok` of a `do` block from `Ok` of its steps: the rules for `>>=`, `if`, `match`, `pure` and
    `throw`, and for a step that is none of these the facts `leaves`.  Under `with_reducible` a rule
    that does not fit is dismissed at the head symbol, without unfolding the readers. -/
macro "ok_steps" "[" leaves:term,* "]" : tactic => `(tactic| with_reducible repeat' (first
  | apply Ok.seq | intro _ | exact Ok.ret _ $[| exact $leaves]* | apply Ok.ite | exact Ok.raise _ (by decide)
  | split))

end XV.Fueled
