/-
`run` equations of the primitives of `XV.Model.Unmarshal` (the monad `M`): what each does to the
state, stated once for the simulation (C10) and the fuel bound (C11).
-/
import XV.Model.Unmarshal
import XV.Lemmas.Run
namespace XV.Model.Unmarshal
open XV

theorem readN_run (n : Int) (s : St) : (readN n).run s =
    if n < 0 then .ok (s.inp, { s with inp := [] })
    else .ok (s.inp.take n.toNat, { s with inp := s.inp.drop n.toNat }) := by
  unfold readN
  split <;> rfl

theorem readN_nat_run (k : Nat) (s : St) :
    (readN (k : Int)).run s = .ok (s.inp.take k, { s with inp := s.inp.drop k }) := by
  rw [readN_run, if_neg (by omega)]; rfl

theorem readExact_run (k : Nat) (s : St) : (readExact k).run s =
    if (s.inp.take k).length = k then .ok (s.inp.take k, { s with inp := s.inp.drop k })
    else .error .structError := by
  unfold readExact
  rw [Run.bind, readN_nat_run]
  dsimp only
  split <;> rfl

theorem rRef_false (v : V) : rRef v false = pure v := rfl

/-- `fp.read(1)`: at the end of the input `g` sees `b''` -/
theorem readN_one_bind_run {α : Type} (g : Bytes → M α) (s : St) : (readN 1 >>= g).run s =
    match s.inp with
    | [] => (g []).run { s with inp := [] }
    | x :: rest => (g [x]).run { s with inp := rest } := by
  rw [Run.bind, show (readN 1).run s = _ from readN_nat_run 1 s]
  cases s.inp <;> rfl

/-- t_dict looks at one byte: the terminator '0' (or the end of the input) ends the dict; any other byte is
    put back (`fp.seek(-1, 1)`) -/
theorem rDict_run (c : Cfg) (f d : Nat) (bfs : Bool) (s : St) : (rDict c (f + 1) d bfs).run s =
    match s.inp with
    | [] => .ok ([], { s with inp := [] })
    | x :: rest =>
      if x = 48 then .ok ([], { s with inp := rest })
      else (do let k ← rObject c f (d + 1) bfs
               let v ← rObject c f (d + 1) bfs
               let kvs ← rDict c f d bfs
               pure ((k, v) :: kvs)).run s := by
  rw [rDict, readN_one_bind_run]
  cases s with
  | mk inp refs strs =>
    cases inp with
    | nil => rfl
    | cons x rest =>
      dsimp only
      split
      · rename_i h; cases h
      · rename_i h; cases h; rfl
      · rename_i hne h
        cases h
        rw [if_neg (fun hx => hne hx rfl), Run.bind, Run.modify]

end XV.Model.Unmarshal
