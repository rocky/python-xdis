/-
Masks and shifts by constants as arithmetic, so that facts about the bit fields of a byte are goals for
`omega`: `simp only [and_7, and_128, Nat.shiftRight_eq_div_pow, …]; omega`.
-/
namespace XV.Bits

theorem and_two_pow (b k : Nat) : b &&& 2 ^ k = b / 2 ^ k % 2 * 2 ^ k := by
  have h := Nat.div_add_mod (b &&& 2 ^ k) (2 ^ k)
  rw [Nat.and_div_two_pow, Nat.and_mod_two_pow, Nat.mod_self, Nat.and_zero, Nat.div_self (Nat.two_pow_pos k),
    Nat.and_one_is_mod, Nat.add_zero, Nat.mul_comm] at h
  exact h.symm

theorem and_7 (b : Nat) : b &&& 7 = b % 8 := Nat.and_two_pow_sub_one_eq_mod b 3
theorem and_15 (b : Nat) : b &&& 15 = b % 16 := Nat.and_two_pow_sub_one_eq_mod b 4
theorem and_63 (b : Nat) : b &&& 63 = b % 64 := Nat.and_two_pow_sub_one_eq_mod b 6
theorem and_64 (b : Nat) : b &&& 64 = b / 64 % 2 * 64 := and_two_pow b 6
theorem and_128 (b : Nat) : b &&& 128 = b / 128 % 2 * 128 := and_two_pow b 7

theorem or_shift (a d k : Nat) (ha : a < 2 ^ k) : a ||| d * 2 ^ k = a + d * 2 ^ k := by
  have := Nat.shiftLeft_add_eq_or_of_lt ha d
  rw [Nat.shiftLeft_eq] at this
  rw [Nat.or_comm, ← this, Nat.add_comm]

theorem mod_or_div_shiftLeft (n k : Nat) : n % 2 ^ k ||| (n / 2 ^ k) <<< k = n := by
  rw [Nat.shiftLeft_eq, or_shift _ _ k (Nat.mod_lt _ (Nat.two_pow_pos k)), Nat.mod_add_div']

end XV.Bits
