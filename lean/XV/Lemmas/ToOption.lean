/-
`Except.toOption` is a monad morphism: seen through it, a `do` block in `Except ε` is the same
`do` block in `Option`.  Rewriting with these equations turns a statement about the `Option` view
of an `Except` loop into one about an `Option` loop, with no case split on `error`/`ok`.
-/
namespace XV.ToOption
variable {ε α β : Type}

theorem bind (x : Except ε α) (f : α → Except ε β) :
    (x >>= f).toOption = x.toOption.bind fun a => (f a).toOption := by
  cases x <;> rfl

theorem pure (a : α) : (Pure.pure a : Except ε α).toOption = Pure.pure a := rfl

theorem map (g : α → β) (x : Except ε α) : (x.map g).toOption = x.toOption.map g := by
  cases x <;> rfl

end XV.ToOption
