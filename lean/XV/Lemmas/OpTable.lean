/-
Facts about the opcode-table accessors of `XV.Model.OpTable` that hold for every table.
-/
import XV.Model.OpTable
namespace XV.Model
open XV

theorem verGe_mono {v : Nat × Nat} {a b a' b' : Nat} (hle : a' < a ∨ (a' = a ∧ b' ≤ b))
    (h : verGe v a b = true) : verGe v a' b' = true := by
  simp only [verGe, Bool.or_eq_true, Bool.and_eq_true, decide_eq_true_eq, beq_iff_eq] at h ⊢
  omega

theorem verGe_anti {v : Nat × Nat} {a b a' b' : Nat} (hle : a' < a ∨ (a' = a ∧ b' ≤ b))
    (h : verGe v a' b' = false) : verGe v a b = false := by
  cases h' : verGe v a b
  · rfl
  · rw [verGe_mono hle h'] at h; cases h

namespace OpTable

/-- before 3.13 `op_has_argument` is the comparison with HAVE_ARGUMENT -/
theorem hasArg_eq_ge (t : OpTable) (h : verGe t.version 3 13 = false) (op : Nat) :
    t.hasArg op = decide (op ≥ t.haveArgument) := by
  simp [hasArg, h]

/-- `instruction_size` in terms of `op_has_argument`: word code from 3.6, 1 or 3 bytes before -/
theorem instrSizeOf_eq (t : OpTable) (op : Nat) :
    t.instrSizeOf op = if verGe t.version 3 6 then 2 else if t.hasArg op then 3 else 1 := by
  unfold instrSizeOf
  cases h6 : verGe t.version 3 6
  · simp only [hasArg_eq_ge t (verGe_anti (by omega) h6), Bool.false_eq_true, if_false, decide_eq_true_eq]
    split <;> split <;> omega
  · simp

end OpTable
end XV.Model
