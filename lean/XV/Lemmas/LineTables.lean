/-
CPython's line-table readers with the byte interpretation taken out.  `startsGo` (lnotab) and
`linesGo` (3.10 `co_lines()` + `findlinestarts`) walk entries whose line delta is already an integer
of any size; the readers of `XV.Spec.Lines` are these after mapping the line byte of each pair.
An entry too big for its bytes can then be written down, and "the chunks an encoder splits an entry
into read as the entry" is an equation between tables (`Same`), proved from two merging rules per reader.
-/
import XV.Spec.Lines
namespace XV.LineTables
open XV XV.Spec.Lines

def Same {σ α β : Type} (R : σ → List α → β) (X Y : List α) : Prop := ∀ s, R s X = R s Y

theorem Same.trans {σ α β : Type} {R : σ → List α → β} {X Y Z : List α} (h1 : Same R X Y) (h2 : Same R Y Z) :
    Same R X Z :=
  fun s => (h1 s).trans (h2 s)

/-- state `(lastlineno, lineno, addr)`; a pair with a nonzero address increment reports the
    line reached so far, and so does the end of the table -/
def startsGo : Option Int × Int × Nat → List (Nat × Int) → List (Nat × Int)
  | (last, line, addr), [] => if last ≠ some line then [(addr, line)] else []
  | (last, line, addr), (b, l) :: rest =>
    if b = 0 then startsGo (last, line + l, addr) rest
    else (if last ≠ some line then [(addr, line)] else []) ++ startsGo (some line, line + l, addr + b) rest

def pairsBy (δ : Nat → Int) (tab : Bytes) : List (Nat × Int) := (pairs tab).map fun p => (p.1, δ p.2)

theorem pairsBy_cons (δ : Nat → Int) (a b : Nat) (rest : Bytes) :
    pairsBy δ (a :: b :: rest) = (a, δ b) :: pairsBy δ rest := rfl

theorem starts27Go_eq (ps : List (Nat × Nat)) (last : Option Int) (line : Int) (addr : Nat) :
    starts27Go last line addr ps = startsGo (last, line, addr) (ps.map fun p => (p.1, (p.2 : Int))) := by
  induction ps generalizing last line addr with
  | nil => rfl
  | cons p ps ih => by_cases hb : p.1 = 0 <;> by_cases hl : last = some line <;> simp [starts27Go, startsGo, ih, hb, hl]

theorem starts36Go_eq (ps : List (Nat × Nat)) (last : Option Int) (line : Int) (addr : Nat) :
    starts36Go last line addr ps = startsGo (last, line, addr) (ps.map fun p => (p.1, sdelta p.2)) := by
  induction ps generalizing last line addr with
  | nil => rfl
  | cons p ps ih => by_cases hb : p.1 = 0 <;> by_cases hl : last = some line <;> simp [starts36Go, startsGo, ih, hb, hl]

theorem Same.consStarts {X Y : List (Nat × Int)} (h : Same startsGo X Y) (p : Nat × Int) :
    Same startsGo (p :: X) (p :: Y) := by
  intro ⟨last, line, addr⟩; simp only [startsGo, h _]

theorem merge_addr (a b : Nat) (l : Int) (Y : List (Nat × Int)) :
    Same startsGo ((a, 0) :: (b, l) :: Y) ((a + b, l) :: Y) := by
  intro ⟨last, line, addr⟩
  by_cases ha : a = 0 <;> by_cases hb : b = 0 <;> simp [startsGo, ha, hb, Nat.add_assoc]

theorem merge_line (a : Nat) (l l' : Int) (Y : List (Nat × Int)) :
    Same startsGo ((a, l) :: (0, l') :: Y) ((a, l + l') :: Y) := by
  intro ⟨last, line, addr⟩; simp [startsGo, Int.add_assoc]

/-- state `(lastline, line, start)`; an entry `(length, line delta)`, `none` for the byte -128 (no line):
    the delta applies before the range, and a range that is not empty reports its line unless it is
    the line reported last -/
def linesGo : Option Int × Int × Nat → List (Nat × Option Int) → List (Nat × Int)
  | _, [] => []
  | (last, line, start), (sd, none) :: rest => linesGo (last, line, start + sd) rest
  | (last, line, start), (sd, some ld) :: rest =>
    if sd = 0 then linesGo (last, line + ld, start) rest
    else (if some (line + ld) ≠ last then [(start, line + ld)] else []) ++
      linesGo (some (line + ld), line + ld, start + sd) rest

/-- the line delta -128 of the format is the marker "no line" -/
def entryOf (e : E310) : Nat × Option Int := (e.sdelta, if e.ldelta = -128 then none else some e.ldelta)

def entries (tab : Bytes) : List (Nat × Option Int) := (decode310 tab).map entryOf

theorem startsOfRanges_eq (es : List E310) (last : Option Int) (line : Int) (start : Nat) :
    startsOfRanges last (ranges310 start line es) = linesGo (last, line, start) (es.map entryOf) := by
  induction es generalizing last line start with
  | nil => rfl
  | cons e es ih =>
    by_cases hl : e.ldelta = -128 <;> by_cases hs : e.sdelta = 0 <;>
      simp [ranges310, startsOfRanges, linesGo, entryOf, ih, hl, hs]
    split <;> simp_all

theorem Same.consLines {X Y : List (Nat × Option Int)} (h : Same linesGo X Y) (p : Nat × Option Int) :
    Same linesGo (p :: X) (p :: Y) := by
  intro ⟨last, line, start⟩; obtain ⟨sd, _ | ld⟩ := p <;> simp only [linesGo, h _]

theorem merge_line310 (sd : Nat) (l l' : Int) (Y : List (Nat × Option Int)) :
    Same linesGo ((0, some l) :: (sd, some l') :: Y) ((sd, some (l + l')) :: Y) := by
  intro ⟨last, line, start⟩; simp [linesGo, Int.add_assoc]

theorem merge_addr310 (sd sd' : Nat) (l : Int) (Y : List (Nat × Option Int)) :
    Same linesGo ((sd, some l) :: (sd', some 0) :: Y) ((sd + sd', some l) :: Y) := by
  intro ⟨last, line, start⟩
  by_cases hs : sd = 0 <;> by_cases hs' : sd' = 0 <;> simp [linesGo, hs, hs', Nat.add_assoc]

end XV.LineTables
