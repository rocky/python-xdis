/-
Two facts about `List` that core Lean does not have and several properties use.
-/
namespace XV

theorem filterMap_congr_mem {α β : Type} {f g : α → Option β} {l : List α} (h : ∀ x ∈ l, f x = g x) :
    l.filterMap f = l.filterMap g := by
  induction l with
  | nil => rfl
  | cons x xs ih =>
    rw [List.filterMap_cons, List.filterMap_cons, h x List.mem_cons_self, ih fun y hy => h y (List.mem_cons_of_mem _ hy)]

theorem length_le_flatMap {α β : Type} (f : α → List β) (hf : ∀ a, 1 ≤ (f a).length) (l : List α) :
    l.length ≤ (l.flatMap f).length := by
  induction l with
  | nil => simp
  | cons a l ih => have := hf a; simp only [List.flatMap_cons, List.length_append, List.length_cons]; omega

end XV
