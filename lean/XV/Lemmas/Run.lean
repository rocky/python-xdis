/-
`run` equations for the reader monads.  The Model's `M`, the Spec's `P` and the fast loader's `F` are
all `StateT σ (Except ε)`; proofs about them step through a `do` block with these equations
(`rw [Run.bind, Run.get_bind]`) without unfolding the monad instances.
-/
namespace XV.Run
variable {σ ε α β : Type}

theorem bind (p : StateT σ (Except ε) α) (f : α → StateT σ (Except ε) β) (s : σ) :
    (p >>= f).run s = match p.run s with | .ok (a, s') => (f a).run s' | .error e => .error e := by
  simp only [StateT.run, Bind.bind, StateT.bind, Except.bind]
  cases p s <;> rfl

theorem get_bind (f : σ → StateT σ (Except ε) β) (s : σ) : (MonadState.get >>= f).run s = (f s).run s := rfl
theorem modify (f : σ → σ) (s : σ) : (_root_.modify f : StateT σ (Except ε) PUnit).run s = .ok (⟨⟩, f s) := rfl

end XV.Run
