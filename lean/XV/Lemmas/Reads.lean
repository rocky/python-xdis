/-
"This reader, on input that starts with these bytes, returns this value and stops after them": the form in
which the round-trip proofs (C14) state what a reader does with what a writer wrote, for any reader monad
`StateT σ (Except ε)` whose state holds the input.
-/
import XV.Lemmas.Run
namespace XV
variable {σ ε α β ι ρ : Type}

/-- `mk` builds a state from the input and the other fields `x`, which `p` leaves alone -/
def Reads (mk : List ι → ρ → σ) (p : StateT σ (Except ε) α) (e : List ι) (a : α) : Prop :=
  ∀ tail x, p.run (mk (e ++ tail) x) = .ok (a, mk tail x)

theorem Reads.run_bind {mk : List ι → ρ → σ} {p : StateT σ (Except ε) α} {e : List ι} {a : α} (h : Reads mk p e a)
    (f : α → StateT σ (Except ε) β) (tail : List ι) (x : ρ) :
    (p >>= f).run (mk (e ++ tail) x) = (f a).run (mk tail x) := by
  rw [Run.bind, h]

end XV
