/-
Model of xdis's line-number machinery:
  cross_dis.findlinestarts (lnotab branch and co_lines branch), opcode_313.findlinestarts_313,
  Code310.co_lines, code311.parse_linetable (co_lines of 3.11+), code311.parse_positions,
  code311.parse_location_entries (what Code311.co_positions used to return),
  bytecode.offset2line, bytecode._parse_varint / parse_exception_table.
One Lean function per Python function, same branches, same order of reads.
-/
import XV.Base.Bytes
namespace XV.Model.Lines
open XV

/-! ### cross_dis.findlinestarts — lnotab branch -/

structure LState where
  lastline : Option Int
  lineno : Int
  offset : Nat
  lastIncr : Nat
  out : List (Nat × Int)        -- reversed
  done : Bool                   -- the `return` inside the loop fired

/-- `zip(tab[0::2], tab[1::2])` -/
def pairs : Bytes → List (Nat × Nat)
  | a :: b :: rest => (a, b) :: pairs rest
  | _ => []

def lnotabStep (signed dup : Bool) (codeLen : Nat) (s : LState) (p : Nat × Nat) : LState :=
  if s.done then s else
  let (byteIncr, lineDelta) := p
  let s := { s with lastIncr := byteIncr }
  let s :=
    if byteIncr ≠ 0 then
      let s := if s.lastline ≠ some s.lineno ∨ (dup ∧ 0 < byteIncr ∧ byteIncr < 255)
               then { s with out := (s.offset, s.lineno) :: s.out, lastline := some s.lineno } else s
      if s.offset ≥ codeLen then { s with done := true }
      else { s with offset := s.offset + byteIncr }
    else s
  if s.done then s else
  let d : Int := if signed ∧ lineDelta ≥ 0x80 then (lineDelta : Int) - 0x100 else lineDelta
  { s with lineno := s.lineno + d }

/-- `findlinestarts(code, dup_lines, signed_line_deltas)` when `code.co_lnotab` is a bytes
    table; `findlinestarts_pre36` passes `signed = false` -/
def lnotabStarts (signed dup : Bool) (first : Int) (codeLen : Nat) (tab : Bytes) : List (Nat × Int) :=
  if tab.length = 0 then [(0, first)] else
  let s0 : LState := { lastline := none, lineno := first, offset := 0, lastIncr := 0, out := [], done := false }
  let s := (pairs tab).foldl (lnotabStep signed dup codeLen) s0
  if s.done then s.out.reverse
  else if s.lastline ≠ some s.lineno ∨ (dup ∧ 0 < s.lastIncr ∧ s.lastIncr < 255)
       then ((s.offset, s.lineno) :: s.out).reverse else s.out.reverse

/-! ### Code310.co_lines -/

/-- one `(offset_delta: B, line_delta: b)` pair; `ld` is the raw byte -/
def signed8 (b : Nat) : Int := if b ≥ 128 then (b : Int) - 256 else b

def coLines310Go : Nat → Int → List (Nat × Nat) → List (Nat × Nat × Option Int)
  | _, _, [] => []
  | endOff, line, (od, ldRaw) :: rest =>
    let start := endOff
    let endOff' := endOff + od
    let ld := signed8 ldRaw
    let line' := if ld ≠ -128 then line + ld else line
    let disp : Option Int := if ld ≠ -128 then some line' else none
    if start = endOff' then coLines310Go endOff' line' rest
    else (start, endOff', disp) :: coLines310Go endOff' line' rest

/-- `Code310.co_lines()`; `none` = struct.error (odd table length) -/
def coLines310 (first : Int) (tab : Bytes) : Option (List (Nat × Nat × Option Int)) :=
  if tab.length % 2 = 0 then some (coLines310Go 0 first (pairs tab)) else none

/-! ### cross_dis.findlinestarts — co_lines branch, and findlinestarts_313 -/

def startsFromRanges (rs : List (Nat × Nat × Option Int)) : List (Nat × Int) :=
  let rec go (last : Option Int) : List (Nat × Nat × Option Int) → List (Nat × Int)
    | [] => []
    | (s, _, l) :: rest =>
      match l with
      | some line => if some line ≠ last then (s, line) :: go (some line) rest else go last rest
      | none => go last rest
  go none rs

/-- 3.13: `lastline = False; if line is not lastline: ...` — `None` lines are reported too -/
def startsFromRanges313 (rs : List (Nat × Nat × Option Int)) : List (Nat × Option Int) :=
  let rec go (last : Option (Option Int)) : List (Nat × Nat × Option Int) → List (Nat × Option Int)
    | [] => []
    | (s, _, l) :: rest => if some l ≠ last then (s, l) :: go (some l) rest else go last rest
  go none rs

/-! ### code311: varints and parse_linetable -/

/-- `_scan_varint(iterator)`: little-endian 6-bit groups; stops after a byte without bit 6
    or at end of input; returns (value, remaining) -/
def scanVarint : Bytes → Nat → Nat → Nat × Bytes
  | [], _, acc => (acc, [])
  | b :: rest, shift, acc =>
    let acc' := acc ||| ((b &&& 63) <<< (shift * 6))
    if b &&& 64 = 0 then (acc', rest) else scanVarint rest (shift + 1) acc'

def scanSignedVarint (bs : Bytes) : Int × Bytes :=
  let (v, rest) := scanVarint bs 0 0
  (if v &&& 1 = 1 then -((v >>> 1 : Nat) : Int) else ((v >>> 1 : Nat) : Int), rest)

structure LTEntry where
  lineDelta : Int
  codeDelta : Nat
  noLine : Bool
  deriving Repr, DecidableEq

/-- `_get_line_delta` (consumes from the shared iterator for codes 13 and 14) -/
def getLineDelta (codeByte : Nat) (rest : Bytes) : Int × Bytes :=
  let c := (codeByte >>> 3) &&& 15
  if c = 15 then (0, rest)
  else if c = 13 ∨ c = 14 then scanSignedVarint rest
  else if c = 10 then (0, rest)
  else if c = 11 then (1, rest)
  else if c = 12 then (2, rest)
  else (0, rest)

/-- `_go_to_next_code_byte`: skip bytes until one has bit 7 set -/
def nextCodeByte : Bytes → Option (Nat × Bytes)
  | [] => none
  | b :: rest => if b &&& 128 ≠ 0 then some (b, rest) else nextCodeByte rest

def nextCodeByte_length {bs : Bytes} {b : Nat} {rest : Bytes} (h : nextCodeByte bs = some (b, rest)) :
    rest.length < bs.length := by
  induction bs with
  | nil => simp [nextCodeByte] at h
  | cons x xs ih =>
    unfold nextCodeByte at h
    split at h
    · simp at h; obtain ⟨_, h2⟩ := h; subst h2; simp
    · have := ih h; simp; omega

theorem scanVarint_length (bs : Bytes) (s a : Nat) : (scanVarint bs s a).2.length ≤ bs.length := by
  fun_induction scanVarint bs s a <;> simp <;> omega

theorem getLineDelta_length (c : Nat) (bs : Bytes) : (getLineDelta c bs).2.length ≤ bs.length := by
  have := scanVarint_length bs 0 0
  fun_cases getLineDelta c bs <;> first | exact this | exact Nat.le_refl _

/-- the `while (code_byte := _go_to_next_code_byte(it)) is not None` loop -/
def ltEntries (bs : Bytes) : List LTEntry :=
  match h : nextCodeByte bs with
  | none => []
  | some (cb, rest) =>
    have : (getLineDelta cb rest).2.length < bs.length := by
      have h1 := nextCodeByte_length h
      have h2 := getLineDelta_length cb rest
      omega
    { lineDelta := (getLineDelta cb rest).1, codeDelta := ((cb &&& 7) + 1) * 2, noLine := (cb >>> 3) = 0x1F }
      :: ltEntries (getLineDelta cb rest).2
termination_by bs.length

/-- the merging loop of `parse_linetable` after the first entry -/
def ltMerge : Nat → Nat → Int → Bool → List LTEntry → List (Nat × Nat × Option Int)
  | cs, ce, line, nl, [] => [(cs, ce, if nl then none else some line)]
  | cs, ce, line, nl, e :: rest =>
    if e.lineDelta ≠ 0 ∨ e.noLine ≠ nl then
      (cs, ce, if nl then none else some line) :: ltMerge ce (ce + e.codeDelta) (line + e.lineDelta) e.noLine rest
    else ltMerge cs (ce + e.codeDelta) line nl rest

/-- `parse_linetable(linetable, first_lineno)` = `Code311.co_lines()` -/
def coLines311 (first : Int) (tab : Bytes) : List (Nat × Nat × Option Int) :=
  match ltEntries tab with
  | [] => []
  | e :: rest => ltMerge 0 e.codeDelta (first + e.lineDelta) e.noLine rest

/-! ### code311.parse_positions -/

structure PosEntry where
  lineDelta : Int
  numLines : Nat
  codeDelta : Nat
  column : Int
  endColumn : Int
  noLine : Bool
  deriving Repr, DecidableEq

inductive PErr where | stopIteration | assertion
  deriving Repr, DecidableEq

/-- `decode_position_entry`; `next(iterator)` on an exhausted iterator raises StopIteration,
    which `parse_positions` catches (ending the loop) -/
def decodePosEntry (cb : Nat) (rest : Bytes) : Except PErr (PosEntry × Bytes) :=
  if cb &&& 128 = 0 then .error .assertion else
  let cd := ((cb &&& 7) + 1) * 2
  let fl := (cb >>> 3) &&& 15
  if fl = 15 then .ok ({ lineDelta := 0, numLines := 0, codeDelta := cd, column := -1, endColumn := -1, noLine := true }, rest)
  else if fl = 14 then
    let (ld, r1) := scanSignedVarint rest
    let (nl, r2) := scanVarint r1 0 0
    let (c, r3) := scanVarint r2 0 0
    let (ec, r4) := scanVarint r3 0 0
    .ok ({ lineDelta := ld, numLines := nl, codeDelta := cd, column := (c : Int) - 1, endColumn := (ec : Int) - 1, noLine := false }, r4)
  else if fl = 13 then
    let (ld, r1) := scanSignedVarint rest
    .ok ({ lineDelta := ld, numLines := 0, codeDelta := cd, column := -1, endColumn := -1, noLine := false }, r1)
  else if fl = 10 ∨ fl = 11 ∨ fl = 12 then
    match rest with
    | c :: ec :: r => .ok ({ lineDelta := (fl : Int) - 10, numLines := 0, codeDelta := cd, column := c, endColumn := ec, noLine := false }, r)
    | _ => .error .stopIteration
  else
    match rest with
    | sb :: r =>
      if sb &&& 128 ≠ 0 then .error .assertion else
      let col := (fl <<< 3) ||| (sb >>> 4)
      .ok ({ lineDelta := 0, numLines := 0, codeDelta := cd, column := col, endColumn := ((col + (sb &&& 15) : Nat) : Int), noLine := false }, r)
    | [] => .error .stopIteration

/-- entries decoded before the iterator runs dry; `.error assertion` propagates -/
def posEntries : Nat → Bytes → Except PErr (List PosEntry)
  | 0, _ => .ok []
  | _, [] => .ok []
  | fuel + 1, cb :: rest =>
    match decodePosEntry cb rest with
    | .error .stopIteration => .ok []
    | .error e => .error e
    | .ok (e, r) => do let tl ← posEntries fuel r; pure (e :: tl)

abbrev Pos := Option (Int × Int × Option Int × Option Int)

/-- `x if x >= 0 else None` -/
def colOpt (c : Int) : Option Int := if c ≥ 0 then some c else none

def expandPositions : Int → List PosEntry → List Pos
  | _, [] => []
  | line, e :: rest =>
    let line' := line + e.lineDelta
    List.replicate (e.codeDelta / 2)
      (if e.noLine then none else some (line', line' + e.numLines, colOpt e.column, colOpt e.endColumn))
    ++ expandPositions line' rest

/-- `parse_positions(linetable, first_lineno)`: one 4-tuple per code unit -/
def positions311 (first : Int) (tab : Bytes) : Except PErr (List Pos) :=
  (posEntries (tab.length + 1) tab).map (expandPositions first)

/-! ### bytecode._parse_varint / parse_exception_table (big-endian 6-bit groups) -/

/-- `_parse_varint(iterator)`: none = StopIteration -/
def parseVarintGo (val : Nat) (b : Nat) : Bytes → Option (Nat × Bytes)
  | [] => if b &&& 64 = 0 then some (val, []) else none
  | b' :: rest' =>
    if b &&& 64 = 0 then some (val, b' :: rest')
    else parseVarintGo ((val <<< 6) ||| (b' &&& 63)) b' rest'

def parseVarintBE : Bytes → Option (Nat × Bytes)
  | [] => none
  | b :: rest => parseVarintGo (b &&& 63) b rest

structure ExcEntry where
  start : Nat
  stop : Nat
  target : Nat
  depth : Nat
  lasti : Bool
  deriving Repr, DecidableEq

def parseExcTable : Nat → Bytes → List ExcEntry
  | 0, _ => []
  | fuel + 1, bs =>
    match parseVarintBE bs with
    | none => []
    | some (s, r1) =>
    match parseVarintBE r1 with
    | none => []
    | some (l, r2) =>
    match parseVarintBE r2 with
    | none => []
    | some (t, r3) =>
    match parseVarintBE r3 with
    | none => []
    | some (dl, r4) =>
      { start := s * 2, stop := s * 2 + l * 2, target := t * 2, depth := dl >>> 1, lasti := dl &&& 1 = 1 }
        :: parseExcTable fuel r4

def excTable (bs : Bytes) : List ExcEntry := parseExcTable (bs.length + 1) bs

/-! ### bytecode.offset2line -/

/-- the `while low <= high` loop, with `fuel` bounding the iterations -/
def o2lLoop (ls : Array (Nat × Int)) (off : Nat) : Nat → Int → Int → Int → Option Int × Int × Int
  | 0, _, high, mid => (none, high, mid)
  | fuel + 1, low, high, mid =>
    if low ≤ high then
      let m := (ls.getD mid.toNat (0, 0)).1
      if m > off then
        let high' := mid - 1
        o2lLoop ls off fuel low high' ((low + high' + 1) / 2)
      else if m < off then
        let low' := mid + 1
        o2lLoop ls off fuel low' high ((low' + high + 1) / 2)
      else (some (ls.getD mid.toNat (0, 0)).2, high, mid)
    else (none, high, mid)

/-- `offset2line(offset, linestarts)` -/
def offset2line (off : Nat) (linestarts : List (Nat × Int)) : Int :=
  let ls := linestarts.toArray
  if ls.size = 0 ∨ off < (ls.getD 0 (0, 0)).1 then 0 else
  let high : Int := (ls.size : Int) - 1
  let mid : Int := (0 + high + 1) / 2
  match o2lLoop ls off (ls.size + 2) 0 high mid with
  | (some l, _, _) => l
  | (none, high', mid') =>
    if mid' ≥ ls.size then (ls.getD (ls.size - 1) (0, 0)).2
    else (ls.getD high'.toNat (0, 0)).2

end XV.Model.Lines
